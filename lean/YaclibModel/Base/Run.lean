/- Running an executable transition function along a trace, so that a witness execution is stated as
its list of labels and checked by one evaluation. -/
namespace Yaclib

variable {σ Λ : Type} {next : σ → Λ → Option σ}

def runL (next : σ → Λ → Option σ) (s : σ) : List Λ → Option σ
  | [] => some s
  | l :: ls => (next s l).bind (runL next · ls)

/-- what every accepted step preserves holds at the end of an accepted trace -/
theorem runL_preserves {P : σ → Prop} (hstep : ∀ {s l s'}, P s → next s l = some s' → P s')
    {s s' : σ} (h : P s) (ls : List Λ) (hr : runL next s ls = some s') : P s' := by
  induction ls generalizing s with
  | nil => cases hr; exact h
  | cons l ls ih =>
    cases hn : next s l with
    | none => simp [runL, hn] at hr
    | some t => rw [runL, hn] at hr; exact ih (hstep h hn) hr

end Yaclib
