/- WhenU: every Unique instance is a C01 run, the coupling invariant, and the simulation
   `WhenU.Reachable S → When.Reachable S.wh` — the interface steps the When model assumes are produced by the instances exactly
   when the When model is ready for them. -/
import YaclibModel.Proofs.WhenCompose

namespace Yaclib.WhenU
open Yaclib

variable {w : When.Workload} {S : State}

/-- every input instance is a run of the C01 model -/
theorem unique_reachable (h : Reachable w S) : ∀ i, Unique.Reachable (wU w i) (S.u i) ∧ UOk (S.u i) := by
  induction h with
  | init => intro i; exact ⟨.init, uok_init w i⟩
  | step hr hs ih =>
      intro j
      have key : ∀ (i : Nat) (l : Unique.Label) (u' : Unique.State) (uu : Nat → Unique.State),
          used l = true → Unique.Step (uu i) l u' → (Unique.Reachable (wU w i) (uu i) ∧ UOk (uu i)) →
          (Unique.Reachable (wU w j) (uu j) ∧ UOk (uu j)) →
          Unique.Reachable (wU w j) (When.upd uu i u' j) ∧ UOk (When.upd uu i u' j) := by
        intro i l u' uu hl hst hi hj
        rw [When.upd_apply]
        by_cases hji : j = i
        · subst hji; simp; exact ⟨.step hi.1 hst, uok_step hi.2 hst hl⟩
        · simp [hji]; exact hj
      cases hs with
      | «when» l wh' hl h => exact ih j
      | prod i old u' hi h => exact key i _ u' _ rfl h (ih i) (ih j)
      | cload i x u' hr h => exact key i _ u' _ rfl h (ih i) (ih j)
      | casOk i u' hr h => exact key i _ u' _ rfl h (ih i) (ih j)
      | casFail i u' hr h => exact key i _ u' _ rfl h (ih i) (ih j)
      | enterC i r u' hr h => exact key i _ u' _ rfl h (ih i) (ih j)
      | enterP i r u' hi h => exact key i _ u' _ rfl h (ih i) (ih j)

/-- coupling of the combinator with its inputs -/
structure K (w : When.Workload) (S : State) : Prop where
  /-- the completer holds the callback ⇒ the combinator is waiting for exactly that -/
  fire_pending : ∀ i, (S.u i).ppc = .fire .cont → S.wh.pc i = .pending
  /-- the callback sits in the word ⇒ the combinator has it registered as installed -/
  word_pending : ∀ i, (S.u i).word = .cb .cont → S.wh.pc i = .pending
  /-- … and conversely an installed callback is in the word or in the completer's hands -/
  pending_src : ∀ i, S.wh.pc i = .pending → (S.u i).word = .cb .cont ∨ (S.u i).ppc = .fire .cont
  /-- the combinator's count of callback entries is the instance's list of continuation deliveries -/
  entries : ∀ i, S.wh.consumed i = (S.u i).delivered.length
  /-- the consumer (SetCallback) of instance i is finished iff the registration loop is past input i -/
  todo_reg : ∀ i, (S.u i).todo = [] ↔ i < S.wh.reg

theorem k_init (w : When.Workload) : K w (init w) := by
  constructor <;> simp [init, When.init, Unique.init, wU]

theorem consumeStart_ne_pending (st : When.Strat) (r : When.Res) : When.consumeStart st r ≠ .pending := by
  have h1 := When.consumeStart_cases st r
  have h2 := When.afterRetire_cases st r
  grind

/- patterns for the clauses of `K` -/
namespace Auto
attribute [scoped grind! .] K.fire_pending K.word_pending K.pending_src K.entries K.todo_reg
attribute [scoped grind =] When.upd_apply
end Auto
open Auto

theorem sim_step {S' : State} {l : Label} (hwf : w.wf) (hR : Reachable w S) (hW : When.Reachable w S.wh) (hK : K w S)
    (hs : Step w S l S') : When.Reachable w S'.wh ∧ K w S' := by
  have hU := unique_reachable hR
  have hC := When.invc_reachable hW
  have hcr : S.wh.crashed = false := (When.invb_reachable hwf hW).not_crashed
  have hun := hC.unreg
  cases hs with
  | «when» l wh' hl h =>
      obtain ⟨f1, f2, f3, f4⟩ := when_frame h hl
      refine ⟨.step hW h, ?_⟩
      constructor <;> simp only [f1, f2, f3] <;> grind
  | prod i old u' hi h =>
      refine ⟨hW, ?_⟩
      obtain ⟨c1, c2, c3, c4, c5⟩ := (hU i).2
      cases h
      rename_i hp hw
      rcases c3 with c3 | c3 | c3
      · simp only [Unique.doXchg, c3]; kauto
      · simp only [Unique.doXchg, c3]; kauto
      · exact absurd c3 hw
  | cload i x u' hr h =>
      refine ⟨hW, ?_⟩
      obtain ⟨c1, c2, c3, c4, c5⟩ := (hU i).2
      cases h with
      | cAttLoad op rest k x' hc ht hk hx =>
          have hop : op = .fin (.attach false) ∧ k = .cont := by
            rcases c2 with c2 | c2
            · rw [c2] at ht; cases ht; simp [Unique.opCb, Unique.finCb] at hk; exact ⟨rfl, hk.symm⟩
            · rw [c2.1] at ht; cases ht
          obtain ⟨rfl, rfl⟩ := hop
          by_cases hx0 : x = .empty <;> simp only [Unique.doAttLoad, hx0, if_true, if_false] <;> kauto
      | cReadyLoad rest x' hc ht hx =>
          rcases c2 with c2 | c2
          · rw [c2] at ht; cases ht
          · rw [c2.1] at ht; cases ht
      | cGetcLoad rest x' hc ht hx =>
          rcases c2 with c2 | c2
          · rw [c2] at ht; cases ht
          · rw [c2.1] at ht; cases ht
  | casOk i u' hr h =>
      obtain ⟨r1, r2, r3, r4⟩ := hr
      refine ⟨.step hW (.regSet S.wh i true r4 r2 r1 r3), ?_⟩
      obtain ⟨c1, c2, c3, c4, c5⟩ := (hU i).2
      cases h
      rename_i hp hw
      kauto
  | casFail i u' hr h =>
      refine ⟨hW, ?_⟩
      cases h
      rename_i hp hw
      kauto
  | enterC i r u' hr h =>
      obtain ⟨r1, r2, r3, r4⟩ := hr
      refine ⟨.step hW (.regSet S.wh i false r4 r2 r1 r3), ?_⟩
      obtain ⟨c1, c2, c3, c4, c5⟩ := (hU i).2
      have hI := Unique.inv_reachable (hU i).1
      have hne := consumeStart_ne_pending w.strat (w.inp i)
      cases h with
      | cInvoke r' hp hv hst =>
          have hca := hI.c_after (Or.inl ⟨_, hp⟩)
          kauto
      | cInvokeSub r' hp hst => rw [hp] at c1; simp at c1
  | enterP i r u' hi h =>
      obtain ⟨c1, c2, c3, c4, c5⟩ := (hU i).2
      have hI := Unique.inv_reachable (hU i).1
      have hne := consumeStart_ne_pending w.strat (w.inp i)
      cases h with
      | pInvoke r' hp hv hst =>
          have hpend := hK.fire_pending i hp
          have hword : (S.u i).word = .result := by
            cases hw : (S.u i).word with
            | result => rfl
            | empty => have := hI.start_iff.mpr (by rw [hw]; simp); rw [hp] at this; cases this
            | cb k => have := hI.start_iff.mpr (by rw [hw]; simp); rw [hp] at this; cases this
          refine ⟨.step hW (.fire S.wh i hcr hpend), ?_⟩
          kauto
      | pInvokeSub r' hp hst => rw [hp] at c4; simp at c4

/-- **the simulation**: the When component of every reachable state of the composed system is a reachable state of the
    When model — every interface step it took was enabled — and the coupling invariant holds -/
theorem sim (hwf : w.wf) (h : Reachable w S) : When.Reachable w S.wh ∧ K w S := by
  induction h with
  | init => exact ⟨.init, k_init w⟩
  | step hr hs ih => exact sim_step hwf hr ih.1 ih.2 hs

end Yaclib.WhenU
