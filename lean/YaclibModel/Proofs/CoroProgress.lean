/- Progress for the C13 model: in a state in which only the environment could still act (fulfil an awaited object, register a
   foreign callback, swap an executor) the coroutine has finished and its frame is gone, or it is suspended on an awaited
   object that has not been fulfilled. -/
import YaclibModel.Proofs.CoroD
namespace Yaclib.Coro

/-- the environment's free choices: fulfilment of an awaited object, registrations and executor swaps by other parties -/
def isEnv : Label → Bool
  | .pXchg _ | .envPush _ | .envSwap _ _ => true
  | _ => false

theorem obsOk_self (wd : Word) : obsOk wd wd.obs := by
  cases wd with
  | result l => simp [obsOk, Word.obs, Word.isResult]
  | «open» l f =>
      cases l <;> cases f <;> simp [obsOk, Word.obs]

/-- suspended on an awaited object that is registered on and not fulfilled yet -/
def Waiting (s : State) : Prop :=
  s.pc = .susp ∧ ∃ (op : Op) (rest : List Op) (p j : Nat), s.todo = op :: rest ∧ op.cells[p]? = some j ∧
    s.st[p]? = some .pending ∧ (s.word j).isResult = false

theorem exists_pending_of_count {l : List CbSt} (h : 0 < l.count .pending) : ∃ (p : Nat), l[p]? = some CbSt.pending :=
  List.mem_iff_getElem?.mp (List.count_pos_iff.mp h)

theorem quiescent_cases {w : Workload} {s : State} (hwf : w.WF) (hf : Full w s)
    (hq : ∀ l s', Step s l s' → isEnv l = true) : s.pc = .gone ∨ Waiting s := by
  have ha := hf.i.a
  have hb := hf.i.b
  have hc := hf.i.c
  have hd := hf.d
  have no : ∀ {l s'}, Step s l s' → isEnv l = false → False := by
    intro l s' hs hl; have := hq l s' hs; rw [hl] at this; cases this
  cases hpc : s.pc with
  | gone => left; rfl
  | idle =>
      exfalso
      cases ht : s.todo with
      | nil => exact no (Step.ret s hpc ht) rfl
      | cons op rest => exact no (Step.start s op rest hpc ht) rfl
  | rdy =>
      exfalso
      obtain ⟨op, rest, ht⟩ := todo_cons_of_inop ha (by rw [hpc]; rfl)
      have hpk := ha.pc_kind op rest ht
      rw [hpc] at hpk
      have hes := emptyBased_single (by simpa [pcKindOk] using hpk)
      have hlen := wf_single (op_wf hwf ha ht) hes.1 hes.2
      have hj : ∃ j, op.cells[0]? = some j := by
        match hcs : op.cells, hlen with
        | [a], _ => exact ⟨a, rfl⟩
      obtain ⟨j, hj⟩ := hj
      exact no (Step.rdLoad s op rest j _ hpc ht hj (obsOk_self _)) rfl
  | rdyL x => exact absurd (no (Step.ready s x hpc) rfl) id
  | reg p =>
      exfalso
      obtain ⟨op, rest, ht⟩ := todo_cons_of_inop ha (by rw [hpc]; rfl)
      obtain ⟨_, hpl, _, _⟩ := st_at_reg ha hb ht (by rw [hpc]; rfl : regPos s.pc = some p)
      have hj : op.cells[p]? = some op.cells[p] := List.getElem?_eq_getElem hpl
      exact no (Step.regLoad s op rest p _ _ hpc ht hj (obsOk_self _)) rfl
  | cas p =>
      exfalso
      obtain ⟨op, rest, ht⟩ := todo_cons_of_inop ha (by rw [hpc]; rfl)
      obtain ⟨_, hpl, _, _⟩ := st_at_reg ha hb ht (by rw [hpc]; rfl : regPos s.pc = some p)
      have hj : op.cells[p]? = some op.cells[p] := List.getElem?_eq_getElem hpl
      cases hsh : (s.w.cell op.cells[p]).shared with
      | true =>
          cases hwd : s.word op.cells[p] with
          | «open» l f => exact no (Step.casOk s op rest p _ l f hpc ht hj hwd (Or.inl hsh)) rfl
          | result walk =>
              exact no (Step.casFail s op rest p _ hpc ht hj (Or.inl ⟨hsh, by rw [hwd]; rfl⟩)) rfl
      | false =>
          by_cases he : s.word op.cells[p] = .open [] false
          · exact no (Step.casOk s op rest p _ [] false hpc ht hj he (Or.inr ⟨rfl, rfl⟩)) rfl
          · exact no (Step.casFail s op rest p _ hpc ht hj (Or.inr ⟨hsh, he⟩)) rfl
  | msub =>
      exfalso
      obtain ⟨op, rest, ht⟩ := todo_cons_of_inop ha (by rw [hpc]; rfl)
      exact no (Step.msub s op rest hpc ht) rfl
  | mld => exact absurd (no (Step.mload s s.cnt hpc (Nat.le_refl _)) rfl) id
  | mrd v => exact absurd (no (Step.mready s v hpc) rfl) id
  | msusp =>
      exfalso
      obtain ⟨op, rest, ht⟩ := todo_cons_of_inop ha (by rw [hpc]; rfl)
      exact no (Step.msuspend s op rest hpc ht) rfl
  | tstore =>
      exfalso
      obtain ⟨op, rest, ht⟩ := todo_cons_of_inop ha (by rw [hpc]; rfl)
      have hpk := ha.pc_kind op rest ht
      rw [hpc] at hpk
      have hk : op.kind = .task := by simpa [pcKindOk] using hpk
      have hlen := wf_single (op_wf hwf ha ht) (by rw [hk]; rfl) (by rw [hk]; rfl)
      have hj : ∃ j, op.cells[0]? = some j := by
        match hcs : op.cells, hlen with
        | [a], _ => exact ⟨a, rfl⟩
      obtain ⟨j, hj⟩ := hj
      exact no (Step.tstore s op rest j hpc ht hj) rfl
  | curr =>
      exfalso
      obtain ⟨op, rest, ht⟩ := todo_cons_of_inop ha (by rw [hpc]; rfl)
      exact no (Step.current s op rest hpc ht) rfl
  | subm e => exact absurd (no (Step.submit s e hpc) rfl) id
  | queued e => exact absurd (no (Step.exCall s e hpc) rfl) id
  | wake c =>
      exfalso
      obtain ⟨op, rest, ht⟩ := todo_cons_of_inop ha (by rw [hpc]; rfl)
      exact no (Step.resume s op rest c hpc ht) rfl
  | fin =>
      exfalso
      have hr := (hd.fin_res hpc).1
      by_cases hdr : s.dropped = true
      · exact no (Step.publish s _ hpc hr (Or.inl hdr)) rfl
      · by_cases hl : s.live = 0
        · exact no (Step.publish s _ hpc hr (Or.inr hl)) rfl
        · exact no (Step.ldtor s (Or.inl ⟨hpc, by simpa using hdr⟩) (by omega)) rfl
  | done =>
      exfalso
      by_cases hl : s.live = 0
      · exact no (Step.fdtor s hpc hl) rfl
      · exact no (Step.ldtor s (Or.inr hpc) (by omega)) rfl
  | susp =>
      right
      refine ⟨hpc, ?_⟩
      obtain ⟨op, rest, ht⟩ := todo_cons_of_inop ha (by rw [hpc]; rfl)
      have hin : inOp s.pc = true := by rw [hpc]; rfl
      -- something is pending …
      have hp : ∃ (p : Nat), s.st[p]? = some CbSt.pending := by
        cases hm : isMulti op.kind with
        | false => exact ⟨0, hb.susp_single hpc op rest ht hm⟩
        | true =>
            have := hc.multi_susp op rest ht hm hpc
            exact exists_pending_of_count (by omega)
      obtain ⟨p, hp⟩ := hp
      have hpl : p < op.cells.length := by
        have := lt_of_getElem?_some hp
        have := ha.st_len op rest ht hin
        omega
      have hj : op.cells[p]? = some op.cells[p] := List.getElem?_eq_getElem hpl
      -- … its callback sits in the word of its object, which therefore has not been fulfilled (or the fulfiller could run it)
      have hcb := hb.pend_cbs op rest p _ ht hin hj hp
      refine ⟨op, rest, p, _, ht, hj, hp, ?_⟩
      cases hwd : s.word op.cells[p] with
      | «open» l f => rfl
      | result walk =>
          exfalso
          rw [hwd] at hcb
          exact no (Step.fire s op rest _ p walk ht hwd hcb) rfl

end Yaclib.Coro
