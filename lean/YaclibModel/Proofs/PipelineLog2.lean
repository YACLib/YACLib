/- The log invariant through callStep / runSteps / resumption / every client event. -/
import YaclibModel.Proofs.PipelineLog
import YaclibModel.Proofs.PipelineInd

namespace Yaclib.Pipeline
open Yaclib.Extracted

theorem logOk_acct {cfg : Cfg} {g g' : G} {pend : List Nat} (h : LogOk cfg g pend)
    (h1 : g'.jobs = g.jobs) (h2 : g'.subs = g.subs) (h3 : g'.ran = g.ran) : LogOk cfg g' pend := by
  refine ⟨⟨?_, ?_⟩, ?_⟩
  · rw [h1, h2]; exact h.1.1
  · rw [h1, h2]; exact h.1.2
  · intro x hx; rw [h3] at hx; exact h.2 x hx

theorem logOk_invoke {cfg : Cfg} {g : G} {pend : List Nat} (h : LogOk cfg g pend) (id : Nat) (ctx : Option Nat)
    (via : Option Exec) (hv : ViaCtx via ctx) : LogOk cfg (g.invoke id ctx via) pend := by
  refine ⟨⟨h.1.1, h.1.2⟩, ?_⟩
  intro x hx
  simp only [invoke_ran, List.mem_append, List.mem_cons, List.not_mem_nil, or_false] at hx
  cases hx with
  | inl hx => exact h.2 x hx
  | inr hx => subst hx; exact hv

theorem startSrc_log (cfg : Cfg) (src : Src) (ctx : Option Nat) (g : G) (h : LogOk cfg g []) :
    match startSrc cfg src ctx g with
    | .go _ _ _ g' => LogOk cfg g' []
    | .wait w inh g' => ∀ rest outer, LogOk cfg g' (pendOf w) ∧ PendOk cfg g' ⟨w, inh, rest, outer⟩
    | .crash _ => True := by
  cases src with
  | promiseFn e p f =>
    have hs := submit_log cfg e ctx g h
    simp only [startSrc]
    cases hsb : submit cfg e ctx g with
    | callNow c g' =>
      rw [hsb] at hs
      exact fun _ _ => ⟨logOk_acct hs.1 rfl rfl rfl, trivial⟩
    | dropNow c g' =>
      rw [hsb] at hs
      exact logOk_acct hs.1 rfl rfl rfl
    | queued jid k g' =>
      rw [hsb] at hs
      exact fun _ _ => ⟨hs.1, hs.2.2.1, hs.2.2.2, trivial⟩
  | ready r => exact h
  | contract p f => exact fun _ _ => ⟨h, trivial⟩
  | contractOn e p f => exact fun _ _ => ⟨h, trivial⟩
  | unit => exact h
  | sharedReady r => exact h
  | sharedContract p f => exact fun _ _ => ⟨h, trivial⟩
  | sharedKept e p f pre =>
    simp only [startSrc]
    cases hs : g.isSet p pre
    · exact fun _ _ => ⟨h, trivial⟩
    · exact h

theorem asyncFinish_log (cfg : Cfg) (ty : Nat) (own : Exec) (k : List Step) (lazy : Bool) (ctx : Option Nat) (o : Out)
    (h : LogOut cfg o) : LogOut cfg (asyncFinish ty own k lazy ctx o) := by
  cases o with
  | done r inh c g =>
    simp only [LogOut] at h
    cases lazy <;> exact logOk_acct h (by simp [asyncFinish]) (by simp [asyncFinish]) (by simp [asyncFinish])
  | parked t g =>
    simp only [LogOut] at h
    cases lazy
    · exact ⟨logOk_acct h.1 (by simp) (by simp) (by simp), by
        have := h.2; simp only [PendOk] at this ⊢; cases hw : t.wait <;> simp_all⟩
    · exact ⟨h.1, by have := h.2; simp only [PendOk] at this ⊢; cases hw : t.wait <;> simp_all⟩
  | crash g => trivial

/-- the log invariant as a family closed under the interpreter's moves (nothing to index it by); a step is called in
    the context of the executor it was submitted to -/
def logClosed (cfg : Cfg) : Closed cfg Unit where
  Run _ _ _ g := LogOk cfg g []
  Call _ _ _ _ via ctx g := LogOk cfg g [] ∧ ViaCtx via ctx
  Start _ _ _ g := LogOk cfg g []
  Post _ _ o := LogOut cfg o
  nil _ _ _ h := h
  next {_ _ o} h := by cases o <;> exact h
  direct _ h := ⟨h, fun k hk => by cases hk⟩
  sub {_ _ _ _ g} own ctx _ h := by
    have hs := submit_log cfg own ctx g h
    split <;> rename_i heq <;> rw [heq] at hs
    · exact hs
    · exact hs
    · exact ⟨hs.1, hs.2.2.1, hs.2.2.2, hs.2.1⟩
  invoke {_ id _ _ _ _ _ via ctx _} h := ⟨logOk_invoke h.1 id ctx via h.2, h.2⟩
  done _ _ _ h := logOk_acct h.1 (by simp) (by simp) (by simp)
  async {_ _ _ _ _ lazy _ k _ _ ctx _} own h :=
    ⟨(), by cases lazy <;> exact logOk_acct h.1 (by simp [innerG]) (by simp [innerG]) (by simp [innerG]),
      fun o ho => asyncFinish_log cfg _ own k lazy ctx o ho⟩
  start {_ src steps g} ctx h := by
    have hs := startSrc_log cfg src ctx g h
    split <;> rename_i heq <;> rw [heq] at hs
    · exact hs
    · exact hs steps []
    · trivial
  ready {_ _ _ g} e ctx h := by
    have hs := submit_log cfg e ctx g h
    split <;> rename_i heq <;> rw [heq] at hs
    · exact hs.1
    · exact hs.1
    · exact ⟨hs.1, hs.2.2.1, hs.2.2.2, trivial⟩

theorem callStep_log (cfg : Cfg) (s : Step) (k : List Step) (hd dropped : Bool) (ctx : Option Nat) (via : Option Exec)
    (input0 : R) (own : Exec) (g : G) (hl : LogOk cfg g []) (hv : ViaCtx via ctx) :
    LogOut cfg (callStep cfg s k hd dropped ctx via input0 own g) :=
  (logClosed cfg).callStep_post s k hd dropped ctx via input0 own g () ⟨hl, hv⟩

theorem runSteps_log (cfg : Cfg) (ss : List Step) (hd flow : Bool) (ctx : Option Nat) (r : R) (inh : Exec) (g : G)
    (hl : LogOk cfg g []) : LogOut cfg (runSteps cfg ss hd flow ctx r inh g) :=
  (logClosed cfg).runSteps_post ss hd flow ctx r inh g () hl

theorem unwind_log (cfg : Cfg) : ∀ (fs : List Frame) (o : Out), LogOut cfg o → LogOut cfg (unwind cfg fs o)
  | [], o, h => by cases o <;> simpa [unwind] using h
  | f0 :: fs, .done r inh c' g, h => by
    simp only [unwind]
    exact unwind_log cfg fs _ (runSteps_log cfg f0.rest false true c' r f0.own _ (logOk_acct h (by simp) (by simp) (by simp)))
  | f0 :: fs, .parked t g, h => by
    simp only [LogOut] at h
    exact ⟨h.1, by have := h.2; simp only [PendOk] at this ⊢; cases hw : t.wait <;> simp_all⟩
  | f0 :: fs, .crash g, _ => trivial

theorem fire_log (cfg : Cfg) (t : Thread) (ctx : Option Nat) (g : G)
    (hl : LogOk cfg g (pendOf t.wait)) (hp : PendOk cfg g t) :
    LogOut cfg (fire cfg t ctx g) := by
  unfold fire
  cases hwt : t.wait with
  | promise p fl =>
    rw [hwt] at hl
    exact hl
  | job jid k jk =>
    rw [hwt] at hl
    simp only [PendOk, hwt] at hp
    have hfin : LogOk cfg (g.finishJob jid true) [] := by
      refine ⟨⟨?_, ?_⟩, hl.2⟩
      · have := hl.1.1
        simp only [pendOf] at this
        simp only [finishJob_jobs, finishJob_subs, List.map_append, List.map_cons, List.map_nil, List.append_nil]
        exact this
      · intro x hx
        simp only [finishJob_jobs, finishJob_subs, List.mem_append, List.mem_cons, List.not_mem_nil, or_false] at hx ⊢
        cases hx with
        | inl hx => exact hl.1.2 x hx
        | inr hx =>
          subst hx
          have h1 := hp.1
          have h2 := hp.2.1
          simp only [List.getD_eq_getElem?_getD] at h1
          simp [h1, h2]
    cases jk with
    | step s input hd =>
      simp only []
      have hinh : t.inh = .user k := hp.2.2
      exact callStep_log cfg s t.rest hd false (some k) (some t.inh) input t.inh _ hfin
        (fun k' hk' => by rw [hinh] at hk'; cases hk'; rfl)
    | readyHead r => exact hfin
    | promiseHead p fl => exact ⟨logOk_acct hfin (by simp) (by simp) (by simp), trivial⟩

theorem resume_log (cfg : Cfg) (t : Thread) (ctx : Option Nat) (g : G)
    (hl : LogOk cfg g (pendOf t.wait)) (hp : PendOk cfg g t) :
    LogOut cfg (resume cfg t ctx g) := by
  have hf := fire_log cfg t ctx g hl hp
  rw [resume_eq]
  exact unwind_log cfg _ _ ((logClosed cfg).andThen_post (p := ()) hf)

/-! ### state level -/

def LInv (cfg : Cfg) (st : State) : Prop :=
  st.crashed = true ∨
  match st.ctl with
  | .pending t => LogOk cfg st.g (pendOf t.wait) ∧ PendOk cfg st.g t
  | _ => LogOk cfg st.g []

theorem linv_settle (cfg : Cfg) (st0 : State) (o : Out) (ho : LogOut cfg o) : LInv cfg (settle st0 o) := by
  by_cases hc : st0.crashed = true
  · cases o <;> simp only [settle] <;> (try split) <;> exact Or.inl (by simp [hc])
  · cases o with
    | done r inh c g =>
      simp only [settle]
      split
      · exact Or.inr ho
      · exact Or.inr (logOk_acct ho rfl rfl rfl)
    | parked t g => exact Or.inr ho
    | crash g => exact Or.inl rfl

theorem pendOk_attach (cfg : Cfg) (g g' : G) (t : Thread) (s : Step) (h : PendOk cfg g t) (hs : g'.subs = g.subs) :
    PendOk cfg g' (t.attach s) := by
  unfold Thread.attach
  simp only [PendOk] at h ⊢
  cases ho : t.outer <;> cases hw : t.wait <;> simp_all

theorem linv_step (cfg : Cfg) (st : State) (ev : Event) (hinv : LInv cfg st) : LInv cfg (mech cfg st ev) := by
  obtain ⟨ctl, held, ended, got, result, crashed, g⟩ := st
  cases crashed with
  | true => exact Or.inl (by simp [mech])
  | false =>
  cases hinv with
  | inl hc => simp at hc
  | inr hi =>
  unfold mech
  simp only [Bool.false_eq_true, ite_false]
  cases ev with
  | src s lazy head =>
    cases ctl with
    | idle =>
      simp only at hi
      simp only []
      split
      · exact Or.inr hi
      · have hl : LogOk cfg ((g.allocCore (srcCores s + head.toList.length)).allocFunctor
            (srcFunctors s + head.toList.length)) [] := logOk_acct hi rfl rfl rfl
        cases lazy with
        | true => exact Or.inr hl
        | false =>
          simp only [Bool.false_eq_true, ite_false]
          rw [started_eq]
          exact linv_settle cfg _ _ ((logClosed cfg).afterStart_post (p := ()) false none hl)
    | task src steps => exact Or.inr hi
    | future r inh => exact Or.inr hi
    | pending t => exact Or.inr hi
    | gone => exact Or.inr hi
  | attach s =>
    cases ctl with
    | idle => exact Or.inr hi
    | task src steps =>
      simp only []
      split
      · exact Or.inr hi
      · exact Or.inr (logOk_acct hi rfl rfl rfl)
    | future r inh =>
      simp only []
      split
      · exact Or.inr hi
      · exact linv_settle cfg _ _ (runSteps_log cfg [s] false false none r inh _ (logOk_acct hi rfl rfl rfl))
    | pending t =>
      simp only []
      split
      · exact Or.inr hi
      · simp only at hi
        have hpo : pendOf (t.attach s).wait = pendOf t.wait := by
          unfold Thread.attach; cases t.outer <;> rfl
        cases hdm : s.mode.isDetach
        · refine Or.inr ⟨?_, pendOk_attach cfg g _ t s hi.2 rfl⟩
          simp only []
          rw [hpo]
          exact logOk_acct hi.1 rfl rfl rfl
        · refine Or.inr ⟨?_, pendOk_attach cfg g _ t s hi.2 rfl⟩
          simp only []
          rw [hpo]
          exact logOk_acct hi.1 rfl rfl rfl
    | gone => exact Or.inr hi
  | set p =>
    cases ctl with
    | pending t =>
      simp only at hi
      simp only []
      cases hw : t.wait with
      | job jid k jk => exact Or.inr hi
      | promise q f =>
        simp only []
        split
        · exact linv_settle cfg _ _ (resume_log cfg t none (g.markSet p) (logOk_acct hi.1 rfl rfl rfl)
            (by have := hi.2; simpa [PendOk] using this))
        · exact Or.inr hi
    | idle => exact Or.inr hi
    | task src steps => exact Or.inr hi
    | future r inh => exact Or.inr hi
    | gone => exact Or.inr hi
  | call k =>
    cases ctl with
    | pending t =>
      simp only at hi
      simp only []
      cases hw : t.wait with
      | promise q f => exact Or.inr hi
      | job jid k' jk =>
        simp only []
        split
        · rename_i hk
          exact linv_settle cfg _ _ (resume_log cfg t (some k) g hi.1 hi.2)
        · exact Or.inr hi
    | idle => exact Or.inr hi
    | task src steps => exact Or.inr hi
    | future r inh => exact Or.inr hi
    | gone => exact Or.inr hi
  | start sk =>
    cases ctl with
    | task src steps =>
      simp only at hi
      simp only [started_eq]
      exact linv_settle cfg _ _ ((logClosed cfg).startLazy_post (p := ()) true none sk.ovr hi)
    | idle => exact Or.inr hi
    | pending t => exact Or.inr hi
    | future r inh => exact Or.inr hi
    | gone => exact Or.inr hi
  | dropFuture =>
    cases ctl with
    | future r inh =>
      simp only []
      split
      · exact Or.inr (logOk_acct hi rfl rfl rfl)
      · exact Or.inr hi
    | pending t => exact Or.inr hi
    | idle => exact Or.inr hi
    | task src steps => exact Or.inr hi
    | gone => exact Or.inr hi
  | get =>
    cases ctl with
    | future r inh =>
      simp only []
      split
      · exact Or.inr (logOk_acct hi rfl rfl rfl)
      · exact Or.inr hi
    | pending t => exact Or.inr hi
    | idle => exact Or.inr hi
    | task src steps => exact Or.inr hi
    | gone => exact Or.inr hi

theorem linv_init (cfg : Cfg) : LInv cfg {} := by
  refine Or.inr ⟨⟨rfl, ?_⟩, ?_⟩
  · intro x hx; cases hx
  · intro x hx; cases hx

/-- **the log invariant holds after every list of client events** (unconditionally) -/
theorem linv_run (cfg : Cfg) : ∀ (evs : List Event) (st : State), LInv cfg st → LInv cfg (run cfg st evs)
  | [], _, h => h
  | ev :: evs, st, h => by rw [run_cons]; exact linv_run cfg evs _ (linv_step cfg st ev h)

end Yaclib.Pipeline
