/- WhenS: every instance is a C06 run with observer 0 in shape, the coupling invariant, and the simulation
   `WhenS.Reachable S → When.Reachable S.wh`. -/
import YaclibModel.Proofs.WhenComposeSharedSteps

namespace Yaclib.WhenS
open Yaclib

variable {W : Workload} {S : State}

/-- every input instance is a run of the C06 model, with observer 0 (the combinator) in shape -/
theorem shared_reachable (h : Reachable W S) : ∀ i, Shared.Reachable (wS W i) (S.sh i) ∧ O0 (S.sh i) := by
  induction h with
  | init => intro i; exact ⟨.init, o0_init W i⟩
  | step hr hs ih =>
      intro j
      have key : ∀ (i : Nat) (l : Shared.Label) (s' : Shared.State) (ss : Nat → Shared.State),
          Shared.Step (ss i) l s' → Shared.Reachable (wS W i) (ss i) → O0 s' →
          (Shared.Reachable (wS W j) (ss j) ∧ O0 (ss j)) →
          Shared.Reachable (wS W j) (When.upd ss i s' j) ∧ O0 (When.upd ss i s' j) := by
        intro i l s' ss hst hi ho hj
        rw [When.upd_apply]
        by_cases hji : j = i
        · subst hji; simp; exact ⟨.step hi hst, ho⟩
        · simp [hji]; exact hj
      cases hs with
      | «when» l wh' hl h => exact ih j
      | free i l s' hi hl h =>
          have hI := Shared.inv_reachable (ih i).1
          have hf := free_frame hI (ih i).2.jobs h hl
          refine key i l s' _ h (ih i).1 ⟨?_, hf.2.1⟩ (ih j)
          rw [hf.1]; exact (ih i).2.shape
      | reg i l s' hr' hl h => exact key i l s' _ h (ih i).1 (reg_frame (ih i).2 h hl).1 (ih j)
      | casOk i s' hr' h => exact key i _ s' _ h (ih i).1 (casOk_frame (ih i).2 h).1 (ih j)
      | enterC i s' hr' h =>
          exact key i _ s' _ h (ih i).1 (enterC_frame (Shared.inv_reachable (ih i).1) (ih i).2 h).1 (ih j)
      | enterP i s' hi h =>
          exact key i _ s' _ h (ih i).1 (enterP_frame (Shared.inv_reachable (ih i).1) (ih i).2 h).1 (ih j)

/-- coupling of the combinator with its shared inputs -/
structure K (W : Workload) (S : State) : Prop where
  /-- the combinator callback is installed on input i and not entered yet ⇒ the combinator is waiting for exactly that -/
  lists_pending : ∀ i, inLists (S.sh i) → S.wh.pc i = .pending
  /-- the combinator's count of callback entries is the number of times instance i fired the combinator callback -/
  entries : ∀ i, S.wh.consumed i = (Shared.firedIds (S.sh i)).count cb0
  /-- observer 0 (SetCallback) of instance i is finished iff the registration loop is past input i -/
  todo_reg : ∀ i, ((S.sh i).obs 0).todo = [] ↔ i < S.wh.reg

theorem k_init (W : Workload) : K W (init W) := by
  constructor <;> simp [init, When.init, Shared.init, wS, inLists, Shared.wordList, Shared.walkList, Shared.firedIds]

/- patterns for the clauses of `K` -/
namespace Auto
attribute [scoped grind! .] K.lists_pending K.entries K.todo_reg
attribute [scoped grind =] When.upd_apply
end Auto
open Auto

theorem sim_step {S' : State} {l : Label} (hwf : W.w.wf) (hR : Reachable W S) (hW : When.Reachable W.w S.wh) (hK : K W S)
    (hs : Step W S l S') : When.Reachable W.w S'.wh ∧ K W S' := by
  have hU := shared_reachable hR
  have hC := When.invc_reachable hW
  have hcr : S.wh.crashed = false := (When.invb_reachable hwf hW).not_crashed
  have hun := hC.unreg
  cases hs with
  | «when» l wh' hl h =>
      obtain ⟨f1, f2, f3, f4⟩ := WhenU.when_frame (l := l) h (by cases l <;> simp_all [isEnv, WhenU.isEnv])
      refine ⟨.step hW h, ?_⟩
      constructor <;> simp only [f1, f2, f3] <;> grind
  | free i l s' hi hl h =>
      obtain ⟨f1, f2, f3, f4⟩ := free_frame (Shared.inv_reachable (hU i).1) (hU i).2.jobs h hl
      refine ⟨hW, ?_⟩
      kauto
  | reg i l s' hr hl h =>
      obtain ⟨f1, f2, f3, f4⟩ := reg_frame (hU i).2 h hl
      refine ⟨hW, ?_⟩
      kauto
  | casOk i s' hr h =>
      obtain ⟨r1, r2, r3, r4⟩ := hr
      obtain ⟨f1, f2, f3, f4⟩ := casOk_frame (hU i).2 h
      refine ⟨.step hW (.regSet S.wh i true r4 r2 r1 r3), ?_⟩
      kauto
  | enterC i s' hr h =>
      obtain ⟨r1, r2, r3, r4⟩ := hr
      obtain ⟨f1, f2, f3, f4, f5, f6, f7⟩ := enterC_frame (Shared.inv_reachable (hU i).1) (hU i).2 h
      refine ⟨.step hW (.regSet S.wh i false r4 r2 r1 r3), ?_⟩
      kauto
  | enterP i s' hi h =>
      obtain ⟨f1, f2, f3, f4, f5, f6, f7⟩ := enterP_frame (Shared.inv_reachable (hU i).1) (hU i).2 h
      refine ⟨.step hW (.fire S.wh i hcr (hK.lists_pending i f2)), ?_⟩
      kauto

/-- **the simulation** for shared inputs: the When component of every reachable state of `WhenS` is a reachable state of
    the When model — every `regSet` / `fire` it took was enabled — whatever the other observers of the inputs do -/
theorem sim (hwf : W.w.wf) (h : Reachable W S) : When.Reachable W.w S.wh ∧ K W S := by
  induction h with
  | init => exact ⟨.init, k_init W⟩
  | step hr hs ih => exact sim_step hwf hr ih.1 ih.2 hs

end Yaclib.WhenS
