/- C16: preservation of the invariants of part 4 (counting steps, the steps of `SetImpl`, the owner's side of a wait
   operation); they hold in every reachable state of a workload that respects the token discipline -/
import YaclibModel.Proofs.EventQ

namespace Yaclib.Event
variable {s s' : State} {l : Label} {w : Workload}

open QAuto

/-- a decrement that finds a positive count happens before the count has reached zero -/
theorem InvT.not_zeroed (ht : InvT s) (h : 1 ≤ s.count) : s.zeroed = false := by
  cases hz : s.zeroed with
  | false => rfl
  | true => have := ht.t_z hz; omega

theorem invQ_tAdd (hz : InvZ s) (ht : InvT s) (hi : InvJ s) (hq : InvQ s) (t k : Nat) (rest : List Op) (h : (s.thr t).pc = .idle) (hp : (s.thr t).prog = .add k :: rest) :
    InvQ (doAdd s t k) := by
  simp only [doAdd, finish, setT]
  repeat' split
  all_goals constructor <;> q_grind

theorem invQ_tInsAdd (hz : InvZ s) (ht : InvT s) (hi : InvJ s) (hq : InvQ s) (t : Nat) (consume : Bool) (fs : List Nat) (rest : List Op) (h : (s.thr t).pc = .idle) (hp : (s.thr t).prog = .insert consume fs :: rest) :
    InvQ (doInsAdd s t consume fs) := by
  simp only [doInsAdd]
  repeat' split
  all_goals constructor <;> q_grind

theorem invQ_tInsLoad (hz : InvZ s) (ht : InvT s) (hi : InvJ s) (hq : InvQ s) (t f : Nat) (rest : List Nat) (c wc : Nat) (consume : Bool) (x : FWord) (h : (s.thr t).pc = .insReg (f :: rest) c wc consume) :
    InvQ (doInsLoad s t f rest c wc consume x) := by
  simp only [doInsLoad, insFail, insNext, goto, finish, setT]
  repeat' split
  all_goals constructor <;> q_grind

theorem invQ_tInsCasOk (hz : InvZ s) (ht : InvT s) (hi : InvJ s) (hq : InvQ s) (t f : Nat) (rest : List Nat) (c wc : Nat) (consume : Bool) (h : (s.thr t).pc = .insCas f rest c wc consume) :
    InvQ (doInsCasOk s t f rest c wc consume) := by
  simp only [doInsCasOk, insNext, goto, finish, setT]
  repeat' split
  all_goals constructor <;> q_grind

theorem invQ_tInsCasFail (hz : InvZ s) (ht : InvT s) (hi : InvJ s) (hq : InvQ s) (t f : Nat) (rest : List Nat) (c wc : Nat) (consume : Bool) (h : (s.thr t).pc = .insCas f rest c wc consume) :
    InvQ (insFail s t f rest c wc consume) := by
  simp only [insFail, insNext, goto, finish, setT]
  repeat' split
  all_goals constructor <;> q_grind

theorem invQ_tFulfil (hz : InvZ s) (ht : InvT s) (hi : InvJ s) (hq : InvQ s) (t f : Nat) (rest : List Op) (h : (s.thr t).pc = .idle) (hp : (s.thr t).prog = .fulfil f :: rest) :
    InvQ (doFulfil s t f) := by
  simp only [doFulfil, goto, finish, setT]
  repeat' split
  all_goals constructor <;> q_grind

theorem invQ_tReadyLoad (hz : InvZ s) (ht : InvT s) (hi : InvJ s) (hq : InvQ s) (t f : Nat) (rest : List Op) (b c : Bool) (h : (s.thr t).pc = .idle) (hp : (s.thr t).prog = .ready f :: rest) :
    InvQ (goto s t (.rdy f b c)) := by
  simp only [goto, setT]
  repeat' split
  all_goals constructor <;> q_grind

theorem invQ_tReady (hz : InvZ s) (ht : InvT s) (hi : InvJ s) (hq : InvQ s) (t f : Nat) (b c : Bool) (h : (s.thr t).pc = .rdy f b c) :
    InvQ (finish { s with readyObs := s.readyObs ++ [(f, b, c)] } t) := by
  simp only [finish, setT]
  repeat' split
  all_goals constructor <;> q_grind

theorem invQ_tDone (hz : InvZ s) (ht : InvT s) (hi : InvJ s) (hq : InvQ s) (t k : Nat) (rest : List Op) (h : (s.thr t).pc = .idle) (hp : (s.thr t).prog = .done k :: rest) :
    InvQ (doSub s t k k) := by
  have hnotz : 1 ≤ s.count → s.zeroed = false := ht.not_zeroed
  have hok := ht.t_ok t
  simp only [thrOk, okProg, Bool.and_eq_true, decide_eq_true_eq, h, hp] at hok
  simp only [doSub]
  split <;> constructor <;> q_grind

theorem invQ_tInsSub (hz : InvZ s) (ht : InvT s) (hi : InvJ s) (hq : InvQ s) (t k : Nat) (h : (s.thr t).pc = .insSub k) :
    InvQ (doSub s t k k) := by
  have hnotz : 1 ≤ s.count → s.zeroed = false := ht.not_zeroed
  have hok := ht.t_ok t
  simp only [thrOk, okProg, Bool.and_eq_true, decide_eq_true_eq, h] at hok
  simp only [doSub]
  split <;> constructor <;> q_grind

theorem invQ_tCbSub (hz : InvZ s) (ht : InvT s) (hi : InvJ s) (hq : InvQ s) (t f : Nat) (rest : List Op) (h : (s.thr t).pc = .cbSub) (hp : (s.thr t).prog = .fulfil f :: rest) :
    InvQ (doCbSub s t f) := by
  have hnotz : 1 ≤ s.count → s.zeroed = false := ht.not_zeroed
  simp only [doCbSub, doSub]
  split <;> constructor <;> q_grind

theorem invQ_tXchgHead (hz : InvZ s) (ht : InvT s) (hi : InvJ s) (hq : InvQ s) (t : Nat) (h : (s.thr t).pc = .xchgHead) :
    InvQ (doXchgHead s t) := by
  have hx := ht.t_xh t h
  have hz' := hq.q_xh t (by simp [h, Pc.setter])
  simp only [doXchgHead, runNext, goto, finish, setT]
  repeat' split
  all_goals constructor <;> q_grind

theorem invQ_tRunLock (hz : InvZ s) (ht : InvT s) (hi : InvJ s) (hq : InvQ s) (t j : Nat) (rest : List Nat) (h : (s.thr t).pc = .run (j :: rest) false) (hk : (s.job j).kind ≠ .coro) :
    InvQ (doRunLock s t j rest) := by
  have hl := hi.l_run t _ _ h
  have hz' := hq.q_xh t (by simp [h, Pc.setter])
  simp only [doRunLock, touch, goto, setT]
  constructor <;> q_grind

theorem invQ_tRunUnlock (hz : InvZ s) (ht : InvT s) (hi : InvJ s) (hq : InvQ s) (t j : Nat) (rest : List Nat) (h : (s.thr t).pc = .run (j :: rest) true) :
    InvQ (doRunUnlock s t j rest) := by
  have hl := hi.l_run t _ _ h
  have hk := hi.l_runk t j rest h
  have hz' := hq.q_xh t (by simp [h, Pc.setter])
  have hr := hq.q_locked t j rest h
  simp only [doRunUnlock, touch, runNext, goto, finish, setT]
  repeat' split
  all_goals constructor <;> q_grind

theorem invQ_tRunDec (hz : InvZ s) (ht : InvT s) (hi : InvJ s) (hq : InvQ s) (t j : Nat) (rest : List Nat) (h : (s.thr t).pc = .runDec j rest) :
    InvQ (doRunDec s t j rest) := by
  have hl := hi.l_dec t j rest h
  have hz' := hq.q_xh t (by simp [h, Pc.setter])
  have hr := hq.q_lockedD t j rest h
  simp only [doRunDec, decJob, touch, runNext, goto, finish, setT]
  repeat' split
  all_goals constructor <;> q_grind

theorem invQ_tRunRel (hz : InvZ s) (ht : InvT s) (hi : InvJ s) (hq : InvQ s) (t j : Nat) (rest : List Nat) (h : (s.thr t).pc = .run (j :: rest) false) (hk : (s.job j).kind = .coro) :
    InvQ (doRunRel s t j rest) := by
  have hl := hi.l_run t _ _ h
  have hz' := hq.q_xh t (by simp [h, Pc.setter])
  simp only [doRunRel, touch, runNext, goto, finish, setT]
  repeat' split
  all_goals constructor <;> q_grind

theorem invQ_tStart (hz : InvZ s) (ht : InvT s) (hi : InvJ s) (hq : InvQ s) (t : Nat) (k : WKind) (chk : Bool) (x : Exp) (h : (s.thr t).pc = .idle) :
    InvQ (doStartLoad s t k chk x) := by
  have hout := hi.j_out s.njobs (Nat.le_refl _)
  have hno : ∀ t', (s.thr t').pc.owner ≠ some s.njobs := fun t' h' => by have := (hi.j_own t' _ h').1; omega
  simp only [doStartLoad, tryWith, notAdded, newJob, goto, finish, setT, updJ_same]
  repeat' split
  all_goals constructor <;> q_grind

theorem invQ_tryWith (hz : InvZ s) (ht : InvT s) (hi : InvJ s) (hq : InvQ s) (t j : Nat) (x : Exp) (h : (s.thr t).pc = .tryL j ∨ ∃ y, (s.thr t).pc = .tryC j y) :
    InvQ (tryWith s t j x) := by
  have ho : (s.thr t).pc.owner = some j := by rcases h with h | ⟨y, h⟩ <;> simp [h, Pc.owner]
  have hown := hi.j_own t j ho
  simp only [tryWith, notAdded, goto, finish, setT]
  repeat' split
  all_goals constructor <;> q_grind

theorem invQ_tCasOk (hz : InvZ s) (ht : InvT s) (hi : InvJ s) (hq : InvQ s) (t j : Nat) (l : List Nat) (h : (s.thr t).pc = .tryC j (.cur l)) (hh : s.head = some l) :
    InvQ (doPushed s t j l) := by
  have hown := hi.j_own t j (by simp [h, Pc.owner])
  have hnew := hi.j_tryC t j _ h
  simp only [doPushed, goto, finish, setT, updJ_same]
  repeat' split
  all_goals constructor <;> q_grind

theorem invQ_tResume (hz : InvZ s) (ht : InvT s) (hi : InvJ s) (hq : InvQ s) (t j : Nat) (h : (s.thr t).pc = .resume j) :
    InvQ (doResume s t j) := by
  have hown := hi.j_own t j (by simp [h, Pc.owner])
  have hr := hi.j_res t j h
  simp only [doResume, finish, setT]
  repeat' split
  all_goals constructor <;> q_grind

theorem invQ_tBLock (hz : InvZ s) (ht : InvT s) (hi : InvJ s) (hq : InvQ s) (t j : Nat) (to : Bool) (h : (s.thr t).pc = .bLock j ∨ (s.thr t).pc = .bAsleep j ∨ (s.thr t).pc = .bTimedOut j) (hto : to = true → (s.job j).kind = .timed) :
    InvQ (doBLock s t j to) := by
  have ho : (s.thr t).pc.owner = some j := by rcases h with h | h | h <;> simp [h, Pc.owner]
  have hown := hi.j_own t j ho
  simp only [doBLock, touch, goto, setT]
  repeat' split
  all_goals constructor <;> q_grind

theorem invQ_tBSleep (hz : InvZ s) (ht : InvT s) (hi : InvJ s) (hq : InvQ s) (t j : Nat) (h : (s.thr t).pc = .bHeld j) :
    InvQ (doBSleep s t j) := by
  simp only [doBSleep, touch, goto, setT]
  repeat' split
  all_goals constructor <;> q_grind

theorem invQ_tBTimeout (hz : InvZ s) (ht : InvT s) (hi : InvJ s) (hq : InvQ s) (t j : Nat) (h : (s.thr t).pc = .bAsleep j) :
    InvQ (goto s t (.bTimedOut j)) := by
  simp only [goto, setT]
  repeat' split
  all_goals constructor <;> q_grind

theorem invQ_tBUnlockRet (hz : InvZ s) (ht : InvT s) (hi : InvJ s) (hq : InvQ s) (t j : Nat) (b : Bool) (h : (s.thr t).pc = .bUnlockRet j b) :
    InvQ (doBUnlockRet s t j b) := by
  have hb := hq.q_uretb t j b h
  have hjb' := hi.j_b t j (by simp [h, Pc.bphase])
  simp only [doBUnlockRet, touch, goto, setT]
  repeat' split
  all_goals constructor <;> q_grind

theorem invQ_tBDec (hz : InvZ s) (ht : InvT s) (hi : InvJ s) (hq : InvQ s) (t j : Nat) (b : Bool) (h : (s.thr t).pc = .bDec j b) :
    InvQ (doBDec s t j b) := by
  have hd := hi.j_dec t j b h
  simp only [doBDec, decJob, touch, goto, setT]
  repeat' split
  all_goals constructor <;> q_grind

theorem invQ_tRep (hz : InvZ s) (ht : InvT s) (hi : InvJ s) (hq : InvQ s) (t j : Nat) (b : Bool) (h : (s.thr t).pc = .rep j b) :
    InvQ (doRep s t j b) := by
  have hown := hi.j_own t j (by simp [h, Pc.owner])
  have hr := hi.j_rep t j b h
  have hb := hq.q_repb t j b h
  have hfr := hq.q_rep t j b h
  have hrb' := hi.r_block j
  have hrn' := hi.r_nrel j
  simp only [doRep, finish, setT]
  cases b <;> constructor <;> q_grind

theorem invQ_step (hz : InvZ s) (ht : InvT s) (hi : InvJ s) (hq : InvQ s) (hs : Step s l s') : InvQ s' := by
  cases hs with
  | tAdd t k rest h hp => exact invQ_tAdd hz ht hi hq t k rest h hp
  | tDone t k rest h hp => exact invQ_tDone hz ht hi hq t k rest h hp
  | tInsAdd t consume fs rest h hp hne => exact invQ_tInsAdd hz ht hi hq t consume fs rest h hp
  | tInsLoad t f rest c wc consume x h hx => exact invQ_tInsLoad hz ht hi hq t f rest c wc consume x h
  | tInsCasOk t f rest c wc consume h hw => exact invQ_tInsCasOk hz ht hi hq t f rest c wc consume h
  | tInsCasFail t f rest c wc consume h hw => exact invQ_tInsCasFail hz ht hi hq t f rest c wc consume h
  | tInsSub t k h => exact invQ_tInsSub hz ht hi hq t k h
  | tFulfil t f rest h hp => exact invQ_tFulfil hz ht hi hq t f rest h hp
  | tCbSub t f rest h hp => exact invQ_tCbSub hz ht hi hq t f rest h hp
  | tReadyLoad t f rest h hp => exact invQ_tReadyLoad hz ht hi hq t f rest _ _ h hp
  | tReady t f b c h => exact invQ_tReady hz ht hi hq t f b c h
  | tXchgHead t h => exact invQ_tXchgHead hz ht hi hq t h
  | tRunLock t j rest h hk hm => exact invQ_tRunLock hz ht hi hq t j rest h hk
  | tRunUnlock t j rest h => exact invQ_tRunUnlock hz ht hi hq t j rest h
  | tRunDec t j rest h => exact invQ_tRunDec hz ht hi hq t j rest h
  | tRunRel t j rest h hk => exact invQ_tRunRel hz ht hi hq t j rest h hk
  | tStart t op rest k x h hp hk hx => exact invQ_tStart hz ht hi hq t k (opChecks op) x h
  | tTryLoad t j x h hx => exact invQ_tryWith hz ht hi hq t j x (Or.inl h)
  | tCasOk t j l h hh => exact invQ_tCasOk hz ht hi hq t j l h hh
  | tCasFail t j x h hh => exact invQ_tryWith hz ht hi hq t j _ (Or.inr ⟨x, h⟩)
  | tCasSpur t j x x' h hx => exact invQ_tryWith hz ht hi hq t j x' (Or.inr ⟨x, h⟩)
  | tResume t j h => exact invQ_tResume hz ht hi hq t j h
  | tBLock t j h hm =>
      exact invQ_tBLock hz ht hi hq t j false (by rcases h with h | h; exact Or.inl h; exact Or.inr (Or.inl h)) (fun h => by cases h)
  | tBSleep t j h => exact invQ_tBSleep hz ht hi hq t j h
  | tBTimeout t j h hk => exact invQ_tBTimeout hz ht hi hq t j h
  | tBLockT t j h hm => exact invQ_tBLock hz ht hi hq t j true (Or.inr (Or.inr h)) (fun _ => hi.j_to t j h)
  | tBUnlockRet t j b h => exact invQ_tBUnlockRet hz ht hi hq t j b h
  | tBDec t j b h => exact invQ_tBDec hz ht hi hq t j b h
  | tRep t j b h => exact invQ_tRep hz ht hi hq t j b h

theorem invQ_reachable (hok : w.ok) (h : Reachable w s) : InvQ s := by
  induction h with
  | init => exact invQ_init w
  | step hr hs ih => exact invQ_step (invZ_reachable hr) (invT_reachable hok hr) (invJ_reachable hok hr) ih hs

end Yaclib.Event
