/- C16: preservation of the job invariant (part 3) — the steps of `SetImpl` and the owner's side of a wait operation;
   the job invariant holds in every reachable state of a workload that respects the token discipline -/
import YaclibModel.Proofs.EventJob

namespace Yaclib.Event
variable {s s' : State} {l : Label} {w : Workload}

open Auto

theorem invJ_tXchgHead (ht : InvT s) (hi : InvJ s) (t : Nat) (h : (s.thr t).pc = .xchgHead) : InvJ (doXchgHead s t) := by
  have h1 : ∀ t', (s.thr t').pc.setter = true → t' = t := fun t' h' => ht.t_one t' t h' (by simp [h, Pc.setter])
  cases hh : s.head with
  | none => exact absurd hh (ht.t_xh t h)
  | some l =>
    have hl := hi.l_head l hh
    simp only [doXchgHead, hh, runNext, goto, finish, setT]
    split
    all_goals constructor <;> grind

theorem invJ_tRunLock (ht : InvT s) (hi : InvJ s) (t j : Nat) (rest : List Nat)
    (h : (s.thr t).pc = .run (j :: rest) false) (hk : (s.job j).kind ≠ .coro) (hm : (s.job j).holder = none) :
    InvJ (doRunLock s t j rest) := by
  have hl := hi.l_run t _ _ h
  simp only [doRunLock, touch, goto, setT]
  refine hi.set ht (t := t) (j := j) ?_ rfl rfl rfl rfl (by simp [hi.bad]; grind)
  constructor <;> grind

theorem invJ_tRunUnlock (ht : InvT s) (hi : InvJ s) (t j : Nat) (rest : List Nat)
    (h : (s.thr t).pc = .run (j :: rest) true) : InvJ (doRunUnlock s t j rest) := by
  have hl := hi.l_run t _ _ h
  have hk := hi.l_runk t j rest h
  simp only [doRunUnlock, touch, runNext, goto, finish, setT]
  repeat' split
  all_goals refine hi.set ht (t := t) (j := j) ?_ rfl rfl rfl rfl (by simp [hi.bad]; grind)
  all_goals constructor <;> grind

theorem invJ_tRunDec (ht : InvT s) (hi : InvJ s) (t j : Nat) (rest : List Nat)
    (h : (s.thr t).pc = .runDec j rest) : InvJ (doRunDec s t j rest) := by
  have hl := hi.l_dec t j rest h
  have hf := hi.f_timed j hl.2.1
  simp only [doRunDec, decJob, touch, runNext, goto, finish, setT]
  repeat' split
  all_goals refine hi.set ht (t := t) (j := j) ?_ rfl rfl rfl rfl (by simp [hi.bad]; grind)
  all_goals constructor <;> grind

theorem invJ_tRunRel (ht : InvT s) (hi : InvJ s) (t j : Nat) (rest : List Nat)
    (h : (s.thr t).pc = .run (j :: rest) false) (hk : (s.job j).kind = .coro) : InvJ (doRunRel s t j rest) := by
  have hl := hi.l_run t _ _ h
  simp only [doRunRel, touch, runNext, goto, finish, setT]
  repeat' split
  all_goals refine hi.set ht (t := t) (j := j) ?_ rfl rfl rfl rfl (by simp [hi.bad]; grind)
  all_goals constructor <;> grind

/-- a wait operation starts, first half: the waiter object comes into being (the thread is put at `TryAdd`'s load) -/
theorem invJ_alloc (hi : InvJ s) (t : Nat) (k : WKind) (h : (s.thr t).pc = .idle) :
    InvJ (goto { s with job := updJ s.job s.njobs (newJob s t k), njobs := s.njobs + 1 } t (.tryL s.njobs)) := by
  have hout := hi.j_out
  simp only [newJob, goto, setT]
  constructor <;> grind

theorem invJ_tryWith (hi : InvJ s) (t j : Nat) (x : Exp)
    (h : (s.thr t).pc = .tryL j ∨ ∃ y, (s.thr t).pc = .tryC j y) : InvJ (tryWith s t j x) := by
  have ho : (s.thr t).pc.owner = some j := by rcases h with h | ⟨y, h⟩ <;> simp [h, Pc.owner]
  have hown := hi.j_own t j ho
  have hnew : (s.job j).st = .fresh ∧ (s.job j).freed = false ∧ (s.job j).ready = false ∧ (s.job j).holder = none ∧
      ((s.job j).kind = .timed → (s.job j).oref = true) := by
    rcases h with h | ⟨y, h⟩
    · exact hi.j_tryL t j h
    · exact hi.j_tryC t j y h
  have hf := hi.f_timed j
  have hfo := hi.f_other j
  have hn := hi.r_nrel j
  have hc := hi.r_coro j
  have hb := hi.r_block j
  simp only [tryWith, notAdded, goto, setT]
  split
  · split
    all_goals refine hi.own (t := t) (j := j) ?_ rfl rfl rfl (.inl rfl) hi.bad
    all_goals constructor <;> grind
  · refine hi.own (t := t) (j := j) ?_ rfl (updJ_self _ _).symm rfl (.inl rfl) hi.bad
    constructor <;> grind

theorem tryWith_goto (s : State) (t j : Nat) (pc : Pc) (x : Exp) : tryWith (goto s t pc) t j x = tryWith s t j x := by
  simp only [tryWith, notAdded, goto, setT, updT_updT, updT_same]
  repeat' split
  all_goals rfl

/-- second half: what `Ready()` / the load of `TryAdd` decides is what `tryWith` decides for a thread at `TryAdd`'s load -/
theorem invJ_tStart (hi : InvJ s) (t : Nat) (k : WKind) (chk : Bool) (x : Exp)
    (h : (s.thr t).pc = .idle) : InvJ (doStartLoad s t k chk x) := by
  have h2 := invJ_alloc hi t k h
  have hpc : ((goto { s with job := updJ s.job s.njobs (newJob s t k), njobs := s.njobs + 1 } t (.tryL s.njobs)).thr t).pc =
      .tryL s.njobs := by simp [goto, setT, updT_same]
  have hw := fun x => invJ_tryWith h2 t s.njobs x (.inl hpc)
  simp only [tryWith_goto] at hw
  simp only [doStartLoad]
  split
  · split
    · rename_i hx; have := hw .done; simpa [tryWith] using this
    · exact h2
  · exact hw x

theorem invJ_tCasOk (hi : InvJ s) (t j : Nat) (l : List Nat)
    (h : (s.thr t).pc = .tryC j (.cur l)) (hh : s.head = some l) : InvJ (doPushed s t j l) := by
  have hown := hi.j_own t j (by simp [h, Pc.owner])
  have hnew := hi.j_tryC t j _ h
  simp only [doPushed, goto, finish, setT, updJ_same, updJ_updJ]
  split
  all_goals refine hi.own (t := t) (j := j) ?_ rfl rfl rfl (.inr ⟨l, hh, rfl, hnew.1, rfl⟩) hi.bad
  all_goals constructor <;> grind

theorem invJ_tResume (hi : InvJ s) (t j : Nat) (h : (s.thr t).pc = .resume j) : InvJ (doResume s t j) := by
  have hown := hi.j_own t j (by simp [h, Pc.owner])
  have hr := hi.j_res t j h
  simp only [doResume, finish, setT]
  refine hi.own (t := t) (j := j) ?_ rfl rfl rfl (.inl rfl) hi.bad
  constructor <;> grind

theorem invJ_tBLock (hi : InvJ s) (t j : Nat) (to : Bool)
    (h : (s.thr t).pc = .bLock j ∨ (s.thr t).pc = .bAsleep j ∨ (s.thr t).pc = .bTimedOut j)
    (hto : to = true → (s.job j).kind = .timed) (hm : (s.job j).holder = none) : InvJ (doBLock s t j to) := by
  have ho : (s.thr t).pc.owner = some j := by rcases h with h | h | h <;> simp [h, Pc.owner]
  have hb0 : (s.thr t).pc.bphase = some j := by rcases h with h | h | h <;> simp [h, Pc.bphase]
  have hown := hi.j_own t j ho
  have hb := hi.j_b t j hb0
  simp only [doBLock, touch, goto, setT]
  repeat' split
  all_goals refine hi.own (t := t) (j := j) ?_ rfl rfl rfl (.inl rfl) (by simp [hi.bad, hb])
  all_goals constructor <;> grind

theorem invJ_tBSleep (hi : InvJ s) (t j : Nat) (h : (s.thr t).pc = .bHeld j) : InvJ (doBSleep s t j) := by
  have hown := hi.j_own t j (by simp [h, Pc.owner])
  have hb := hi.j_b t j (by simp [h, Pc.bphase])
  have hh := hi.m_held t j h
  simp only [doBSleep, touch, goto, setT]
  refine hi.own (t := t) (j := j) ?_ rfl rfl rfl (.inl rfl) (by simp [hi.bad, hb])
  constructor <;> grind

theorem invJ_tBTimeout (hi : InvJ s) (t j : Nat) (h : (s.thr t).pc = .bAsleep j) (hk : (s.job j).kind = .timed) :
    InvJ (goto s t (.bTimedOut j)) := by
  have hown := hi.j_own t j (by simp [h, Pc.owner])
  have hb := hi.j_b t j (by simp [h, Pc.bphase])
  simp only [goto, setT]
  refine hi.own (t := t) (j := j) ?_ rfl (updJ_self _ _).symm rfl (.inl rfl) hi.bad
  constructor <;> grind

theorem invJ_tBUnlockRet (hi : InvJ s) (t j : Nat) (b : Bool)
    (h : (s.thr t).pc = .bUnlockRet j b) : InvJ (doBUnlockRet s t j b) := by
  have hown := hi.j_own t j (by simp [h, Pc.owner])
  have hb := hi.j_b t j (by simp [h, Pc.bphase])
  have hh := hi.m_uret t j b h
  have hr := hi.j_ret t j b h
  cases hk : (s.job j).kind with
  | coro => exact absurd hk hb.1
  | timed =>
      simp only [doBUnlockRet, hk, touch, goto, setT]
      refine hi.own (t := t) (j := j) ?_ rfl rfl rfl (.inl rfl) (by simp [hi.bad, hb])
      constructor <;> grind
  | blocking =>
      -- the thread inside `SetImpl` has left the waiter's mutex, so it is done with this waiter
      have hnr : (s.job j).st ≠ .running := by
        intro hst
        obtain ⟨rest, hp⟩ := (hi.y_run j (hr hk) hst hk).2 t hh
        rw [h] at hp; cases hp
      simp only [doBUnlockRet, hk, touch, goto, setT]
      refine hi.own (t := t) (j := j) ?_ rfl rfl rfl (.inl rfl) (by simp [hi.bad, hb])
      constructor <;> grind

theorem invJ_tBDec (hi : InvJ s) (t j : Nat) (b : Bool)
    (h : (s.thr t).pc = .bDec j b) : InvJ (doBDec s t j b) := by
  have hown := hi.j_own t j (by simp [h, Pc.owner])
  have hd := hi.j_dec t j b h
  have hf := hi.f_timed j hd.1 hd.2.2.1
  simp only [doBDec, decJob, touch, goto, setT]
  repeat' split
  all_goals refine hi.own (t := t) (j := j) ?_ rfl rfl rfl (.inl rfl) (by simp [hi.bad]; grind)
  all_goals constructor <;> grind

theorem invJ_tRep (hi : InvJ s) (t j : Nat) (b : Bool) (h : (s.thr t).pc = .rep j b) : InvJ (doRep s t j b) := by
  have hown := hi.j_own t j (by simp [h, Pc.owner])
  have hr := hi.j_rep t j b h
  simp only [doRep, finish, setT]
  refine hi.own (t := t) (j := j) ?_ rfl rfl rfl (.inl rfl) hi.bad
  cases b <;> constructor <;> grind

theorem invJ_step (ht : InvT s) (hi : InvJ s) (hs : Step s l s') : InvJ s' := by
  have hc := invJ_step_count hi hs
  cases hs with
  | tXchgHead t h => exact invJ_tXchgHead ht hi t h
  | tRunLock t j rest h hk hm => exact invJ_tRunLock ht hi t j rest h hk hm
  | tRunUnlock t j rest h => exact invJ_tRunUnlock ht hi t j rest h
  | tRunDec t j rest h => exact invJ_tRunDec ht hi t j rest h
  | tRunRel t j rest h hk => exact invJ_tRunRel ht hi t j rest h hk
  | tStart t op rest k x h hp hk hx => exact invJ_tStart hi t k (opChecks op) x h
  | tTryLoad t j x h hx => exact invJ_tryWith hi t j x (Or.inl h)
  | tCasOk t j l h hh => exact invJ_tCasOk hi t j l h hh
  | tCasFail t j x h hh => exact invJ_tryWith hi t j _ (Or.inr ⟨x, h⟩)
  | tCasSpur t j x x' h hx => exact invJ_tryWith hi t j x' (Or.inr ⟨x, h⟩)
  | tResume t j h => exact invJ_tResume hi t j h
  | tBLock t j h hm =>
      exact invJ_tBLock hi t j false (by rcases h with h | h; exact Or.inl h; exact Or.inr (Or.inl h)) (fun h => by cases h) hm
  | tBSleep t j h => exact invJ_tBSleep hi t j h
  | tBTimeout t j h hk => exact invJ_tBTimeout hi t j h hk
  | tBLockT t j h hm => exact invJ_tBLock hi t j true (Or.inr (Or.inr h)) (fun _ => hi.j_to t j h) hm
  | tBUnlockRet t j b h => exact invJ_tBUnlockRet hi t j b h
  | tBDec t j b h => exact invJ_tBDec hi t j b h
  | tRep t j b h => exact invJ_tRep hi t j b h
  | _ => exact hc (by simp)

theorem invJ_reachable (hok : w.ok) (h : Reachable w s) : InvJ s := by
  induction h with
  | init => exact invJ_init w
  | step hr hs ih => exact invJ_step (invT_reachable hok hr) ih hs

end Yaclib.Event
