/- Inductive invariant of the C15 model (Model/CoSharedMutex.lean): the links between program counters and the ghost
   sets, and the accounting invariants J1–J6 of DESIGN.md §3 C15 (refined). -/
import YaclibModel.Model.CoSharedMutex

namespace Yaclib.CoSharedMutex

theorem upd_same {α : Type} (f : Cid → α) (c : Cid) (v : α) : upd f c v c = v := by simp [upd]
theorem upd_other {α : Type} (f : Cid → α) (c : Cid) (v : α) (x : Cid) (h : x ≠ c) : upd f c v x = f x := by
  simp [upd, h]
theorem upd_self {α : Type} (f : Cid → α) (c : Cid) : upd f c (f c) = f := by
  funext x; by_cases h : x = c <;> simp [upd, h]

@[simp] theorem PW.isSome_none : PW.none.isSome = false := rfl
@[simp] theorem PW.isSome_a (n r) : (PW.a n r).isSome = true := rfl
@[simp] theorem PW.isSome_b (n) : (PW.b n).isSome = true := rfl
@[simp] theorem PW.isSome_c (n b) : (PW.c n b).isSome = true := rfl
@[simp] theorem PW.who_none : PW.none.who = Option.none := rfl
@[simp] theorem PW.who_a (n r) : (PW.a n r).who = some n := rfl
@[simp] theorem PW.who_b (n) : (PW.b n).who = some n := rfl
@[simp] theorem PW.who_c (n b) : (PW.c n b).who = some n := rfl
@[simp] theorem PW.by_none : PW.none.by_ = Option.none := rfl
@[simp] theorem PW.by_a (n r) : (PW.a n r).by_ = Option.none := rfl
@[simp] theorem PW.by_b (n) : (PW.b n).by_ = Option.none := rfl
@[simp] theorem PW.by_c (n b) : (PW.c n b).by_ = some b := rfl
@[simp] theorem PW.isAB_none : PW.none.isAB = false := rfl
@[simp] theorem PW.isAB_a (n r) : (PW.a n r).isAB = true := rfl
@[simp] theorem PW.isAB_b (n) : (PW.b n).isAB = true := rfl
@[simp] theorem PW.isAB_c (n b) : (PW.c n b).isAB = false := rfl

theorem PW.cases_by {p : PW} {b : Cid} (h : p.by_ = some b) : ∃ n, p = .c n b := by
  cases p <;> simp at h
  exact ⟨_, by rw [h]⟩

theorem PW.who_of_isSome {p : PW} (h : p.isSome = true) : ∃ n, p.who = some n := by
  cases p <;> simp at h ⊢

theorem PW.eq_none_of_isSome {p : PW} (h : p.isSome = false) : p = .none := by cases p <;> simp_all
theorem PW.isSome_of_ne {p : PW} (h : p ≠ .none) : p.isSome = true := by cases p <;> simp_all
theorem PW.shape (p : PW) : p = .none ∨ p.isAB = true ∨ p.by_ ≠ Option.none := by cases p <;> simp

/-- Program counters of a coroutine that is in no queue, holds no spinlock and is about to run nobody fall into four
    classes that `Inv` cannot tell apart, but for `idle` (which `busy_todo` names) and for being inside a round
    (which `rounds` counts); `0` marks all others. -/
def Pc.cls : Pc → Nat
  | .idle | .trLoop _ _ | .tryFailed | .twLoaded | .spinning .wr _ => 1
  | .spinning .rd _ => 2
  | .racq | .rcs | .rUn1 => 3
  | .wacq | .wcs | .wUn0 | .spinning .un _ => 4
  | _ => 0

macro "pc_cases" : tactic =>
  `(tactic| (intro p; cases p <;>
      first
      | (simp [Pc.isAR, Pc.isIFL, Pc.isExcl, Pc.isCntW, Pc.isHeld, Pc.isParked, Pc.isInRound, Pc.isStoredUnl, Pc.isPassUnl, Pc.isULock, Pc.isURunW, Pc.isNeedW, Pc.cls]; done)
      | (rename_i x; cases x <;> simp [Pc.isAR, Pc.isIFL, Pc.isExcl, Pc.isCntW, Pc.isHeld, Pc.isParked, Pc.isInRound, Pc.isStoredUnl, Pc.isPassUnl, Pc.isULock, Pc.isURunW, Pc.isNeedW, Pc.cls]; done)
      | (rename_i x y; cases x <;> simp [Pc.isAR, Pc.isIFL, Pc.isExcl, Pc.isCntW, Pc.isHeld, Pc.isParked, Pc.isInRound, Pc.isStoredUnl, Pc.isPassUnl, Pc.isULock, Pc.isURunW, Pc.isNeedW, Pc.cls]; done)))

theorem Pc.held_of_passUnl : ∀ {p : Pc}, p.isPassUnl = true → p.isHeld = true := by pc_cases
theorem Pc.held_of_storedUnl : ∀ {p : Pc}, p.isStoredUnl = true → p.isHeld = true := by pc_cases
theorem Pc.held_of_uLock : ∀ {p : Pc}, p.isULock = true → p.isHeld = true := by pc_cases
theorem Pc.held_of_needW : ∀ {p : Pc}, p.isNeedW = true → p.isHeld = true := by pc_cases
theorem Pc.excl_of_needW : ∀ {p : Pc}, p.isNeedW = true → p.isExcl = true := by pc_cases
theorem Pc.excl_of_cntW : ∀ {p : Pc}, p.isCntW = true → p.isExcl = true := by pc_cases
theorem Pc.uLock_of_passUnl : ∀ {p : Pc}, p.isPassUnl = true → p.isULock = true := by pc_cases
theorem Pc.not_excl_of_passUnl : ∀ {p : Pc}, p.isPassUnl = true → p.isExcl = false := by pc_cases
theorem Pc.cntW_or_needW : ∀ {p : Pc}, p.isExcl = true → p.isCntW = true ∨ p.isNeedW = true := by pc_cases
theorem Pc.of_isURunW : ∀ {p : Pc}, p.isURunW = true → ∃ n, p = .uRunW n := by pc_cases
theorem Pc.cls_spec : ∀ {p : Pc}, p.cls ≠ 0 →
    p.isHeld = false ∧ p.isParked = false ∧ p.isURunW = false ∧ p.isStoredUnl = false ∧ p.isPassUnl = false ∧
    p.isULock = false ∧ p.isNeedW = false ∧ p ≠ .rUn2 ∧ p ≠ .rRun ∧ p ≠ .uRunR ∧ p.isAR = (p.cls == 3) ∧
    p.isIFL = (p.cls == 2) ∧ p.isExcl = (p.cls == 4) ∧ p.isCntW = (p.cls == 4) ∧
    (p.isInRound = true → p.cls ≠ 1 ∧ p.cls ≠ 2) := by pc_cases

structure Inv (cfg : Cfg) (s : State) : Prop where
  hcfg : s.cfg = cfg
  -- links between program counters, queues and ghost sets (each coroutine in at most one place, once)
  l_ar : ∀ c, s.ar.count c = if (s.pc c).isAR then 1 else 0
  l_ifl : ∀ c, s.ifl.count c = if (s.pc c).isIFL then 1 else 0
  l_lv : ∀ c, s.lv.count c = if s.pc c = .rUn2 then 1 else 0
  l_q : ∀ c, s.Q.count c = if s.pc c = .rparked then 1 else 0
  l_wq : ∀ c, s.WQ.count c = if s.pc c = .wparkedQ then 1 else 0
  l_torun : ∀ c, s.torun.count c = if s.pc c = .rgranted then 1 else 0
  l_excl : ∀ c, (s.pc c).isExcl = true ↔ s.excl = some c
  l_held : ∀ c, (s.pc c).isHeld = true ↔ s.spin = .held c
  l_qsize : s.qsize = s.Q.length
  l_runner : ∀ c, s.pc c = .uRunR ↔ s.runner = some c
  l_torun_runner : s.torun.length = 0 ↔ s.runner = none
  l_wrun : ∀ c, (s.pc c).isURunW = true ↔ s.wrun = some c
  l_wrun_t : ∀ c n, s.pc c = .uRunW n → s.excl = some n ∧ s.pc n = .wgranted
  l_wgranted : ∀ n, s.pc n = .wgranted → s.wrun ≠ none
  wrun_w : s.wrun ≠ none → ∀ c, (s.pc c).isExcl = true → s.pc c = .wgranted
  wrun_excl : s.wrun ≠ none → s.excl ≠ none
  l_pend : ∀ c, (s.pc c).isPassUnl = true ↔ s.pendBy = some c
  l_ew_some : ∀ c, s.excl = some c → s.ew = if (s.pc c).isCntW then 1 else 0
  l_ew_none : s.excl = none → s.ew = 0
  l_enq_held : ∀ c, s.spin = .held c → s.enq = if s.pc c = .wUnl .enq then 1 else 0
  l_enq_free : s.spin = .free → s.enq = 0
  l_enq_tail : ∀ c, s.spin = .tailOf c → s.enq = 0
  -- the pending first writer
  pw_a : ∀ n r, s.pw = .a n r → s.pc n = .wPost r
  pw_b : ∀ n, s.pw = .b n → s.pc n = .wparkedF
  pw_c : ∀ n b, s.pw = .c n b → s.pc n = .wparkedF ∧ s.pc b = .rRun
  pc_wpost : ∀ c r, s.pc c = .wPost r → s.pw = .a c r
  pc_wparkedF : ∀ c, s.pc c = .wparkedF → s.pw.who = some c
  pc_rRun : ∀ c, s.pc c = .rRun → s.pw.by_ = some c
  pw_first : ∀ n, s.pw.who = some n → s.wfirst = some n
  -- J4, J5: what the two halves of the word count
  j4 : s.R = s.ar.length + s.torun.length + s.Q.length + s.ifl.length
  j5 : s.W = s.ew + (if s.pw.isSome then 1 else 0) + s.WQ.length + s.enq
  -- J2: exclusivity
  j2 : s.excl ≠ none → s.ar.length = 0 ∧ s.torun.length = 0 ∧ s.lv.length = 0 ∧ s.pass = 0 ∧ s.pw = .none
  j2w : ∀ c, s.excl = some c → s.rwait = if (s.pc c).isStoredUnl then (s.qsize : Int) else 0
  -- J3: the debt
  j3a : ∀ n r, s.pw = .a n r →
    s.rwait = ((s.ar.length + s.torun.length + s.pass + s.lv.length : Nat) : Int) - (r : Int) ∧ s.rwait ≤ 0
  j3b : ∀ n, s.pw = .b n →
    s.rwait = ((s.ar.length + s.torun.length + s.pass + s.lv.length : Nat) : Int) ∧ 1 ≤ s.rwait
  j3c : ∀ n b, s.pw = .c n b →
    s.rwait = 0 ∧ s.ar.length = 0 ∧ s.torun.length = 0 ∧ s.lv.length = 0 ∧ s.pass = 0
  j3n : s.excl = none → s.pw = .none → s.rwait = 0
  lv_pw : s.pw.isAB = false → s.lv.length = 0
  -- J1: no writer counted
  w0_excl : s.W = 0 → s.excl = none
  j1 : s.W = 0 → s.pass + s.pend = s.ifl.length ∧ (s.pendBy = none → s.Q.length = 0)
  pend_w : s.W ≠ 0 → s.pend = 0
  pend_none : s.pendBy = none → s.pend = 0
  pend_amt : ∀ c sr, (s.pc c = .uUnl (.readersPass sr) ∨ s.pc c = .uUnl (.passOnly sr)) → s.pend = sr - s.qsize
  rp_w0 : ∀ c sr, s.pc c = .uUnl (.readersPass sr) → s.W = 0 ∧ s.Q.length ≠ 0
  po_q : ∀ c sr, s.pc c = .uUnl (.passOnly sr) → s.Q.length = 0
  pass_ge : ∀ c sr, (s.pc c = .uUnl (.readersPass sr) ∨ s.pc c = .uUnl (.passOnly sr)) → s.qsize ≤ sr
  jp_le : s.pass + s.pend ≤ s.ifl.length
  -- J6: the queues
  j6 : s.cfg.fifo = true → s.prio ≤ s.WQ.length ∧ (s.Q.length = 0 → s.prio = s.WQ.length)
  j6b : s.WQ.length ≠ 0 → s.excl ≠ none ∨ s.pw ≠ .none
  enq_live : s.enq ≠ 0 → s.excl ≠ none ∨ s.pw ≠ .none
  need_w : ∀ c, (s.pc c).isNeedW = true → s.WQ.length ≠ 0
  rw_fifo : ∀ c, s.pc c = .uUnl .runWriter → s.cfg.fifo = true → s.prio ≠ 0
  st_sw : ∀ c sw, (s.pc c = .uStore sw ∨ s.pc c = .uUnl (.stored sw)) →
    sw = s.WQ.length + 1 ∧ s.Q.length ≠ 0 ∧ (s.cfg.fifo = true → s.prio = 0)
  j7 : ∀ c, (s.pc c).isULock = true → s.torun.length = 0
  -- histories
  busy_todo : ∀ c, s.pc c ≠ .idle → s.todo c ≠ []
  out_idle : ∀ c, cfg.prog c = [] → s.pc c = .idle
  out_todo : ∀ c, cfg.prog c = [] → s.todo c = []
  rounds : ∀ c, s.enters c + s.fails c + (s.todo c).length =
    (cfg.prog c).length + (if (s.pc c).isInRound then 1 else 0)
  parks : ∀ c, s.parks c = s.grants c + (if (s.pc c).isParked then 1 else 0)

theorem inv_init (cfg : Cfg) : Inv cfg (init cfg) := by
  constructor <;> simp [init, Pc.isAR, Pc.isIFL, Pc.isExcl, Pc.isHeld, Pc.isURunW, Pc.isPassUnl, Pc.isNeedW, Pc.isULock,
    Pc.isInRound, Pc.isParked]

theorem erase_len {l : List Cid} {c : Cid} (h : l.count c = 1) : (l.erase c).length + 1 = l.length := by
  have hm : c ∈ l := List.count_pos_iff.mp (by omega)
  rw [List.length_erase_of_mem hm]
  have : 0 < l.length := List.length_pos_of_mem hm
  omega

theorem erase_count_self {l : List Cid} {c : Cid} (h : l.count c = 1) : (l.erase c).count c = 0 := by
  rw [List.count_erase_self]; omega

theorem erase_count_ne {l : List Cid} {c x : Cid} (h : x ≠ c) : (l.erase c).count x = l.count x :=
  List.count_erase_of_ne h

theorem len_pos_of_count {l : List Cid} {c : Cid} (h : l.count c = 1) : 1 ≤ l.length := by
  have := @List.count_le_length _ _ c l
  omega

theorem length_pos_of_ne_nil {α : Type} {l : List α} (h : l ≠ []) : 1 ≤ l.length := by
  cases l with
  | nil => exact absurd rfl h
  | cons a t => simp

theorem mem_iff_of_count {l : List Cid} {x : Cid} {P : Prop} [Decidable P] (h : l.count x = if P then 1 else 0) :
    x ∈ l ↔ P := by
  by_cases hp : P
  · rw [if_pos hp] at h
    exact ⟨fun _ => hp, fun _ => List.count_pos_iff.mp (by omega)⟩
  · rw [if_neg hp] at h
    exact ⟨fun hm => absurd (List.count_pos_iff.mpr hm) (by omega), fun hq => absurd hq hp⟩

theorem count_cons' (a x : Cid) (l : List Cid) : (a :: l).count x = l.count x + if a = x then 1 else 0 := by
  rw [List.count_cons]; by_cases h : a = x <;> simp [h]

theorem count_tail {l rest : List Cid} {n : Cid} (hl : l = n :: rest) (x : Cid) :
    rest.count x = l.count x - if n = x then 1 else 0 := by
  subst hl; rw [count_cons']; omega

/-- the holder of the spinlock is not a departing writer with pending pass credits ⇒ nobody is -/
theorem pendBy_none_of_held {cfg s} (hi : Inv cfg s) {c : Cid} (hs : s.spin = .held c)
    (hp : (s.pc c).isPassUnl = false) : s.pendBy = none := by
  cases hb : s.pendBy with
  | none => rfl
  | some x =>
      have h1 := (hi.l_pend x).mpr hb
      have h2 := (hi.l_held x).mp (Pc.held_of_passUnl h1)
      rw [hs] at h2
      cases h2
      rw [hp] at h1; cases h1

theorem head_pc_wq {cfg s} (hi : Inv cfg s) {n : Cid} {rest : List Cid} (hq : s.WQ = n :: rest) :
    s.pc n = .wparkedQ ∧ rest.count n = 0 := by
  have := hi.l_wq n
  rw [hq, count_cons'] at this
  by_cases hpn : s.pc n = .wparkedQ
  · simp [hpn] at this; exact ⟨hpn, this⟩
  · simp [hpn] at this

theorem head_pc_torun {cfg s} (hi : Inv cfg s) {n : Cid} {rest : List Cid} (hq : s.torun = n :: rest) :
    s.pc n = .rgranted ∧ rest.count n = 0 := by
  have := hi.l_torun n
  rw [hq, count_cons'] at this
  by_cases hpn : s.pc n = .rgranted
  · simp [hpn] at this; exact ⟨hpn, this⟩
  · simp [hpn] at this


/- Inside `Auto`, `grind` sees `hi : Inv cfg s` as a source of facts: a clause is instantiated when a field it
    constrains occurs in the goal (for a clause about one coroutine: together with that coroutine; `l_ew_some`, `j2w`,
    `l_enq_held`: when the test on `s.pc c` that decides them occurs). -/
namespace Auto
scoped grind_pattern Inv.hcfg => Inv cfg s, s.cfg
scoped grind_pattern Inv.l_qsize => Inv cfg s, s.qsize
scoped grind_pattern Inv.l_torun_runner => Inv cfg s, s.runner
scoped grind_pattern Inv.l_torun_runner => Inv cfg s, s.torun.length
scoped grind_pattern Inv.wrun_w => Inv cfg s, s.pc c, s.wrun
scoped grind_pattern Inv.wrun_excl => Inv cfg s, s.wrun
scoped grind_pattern Inv.l_ew_none => Inv cfg s, s.ew
scoped grind_pattern Inv.l_enq_free => Inv cfg s, s.enq
scoped grind_pattern Inv.j4 => Inv cfg s, s.R
scoped grind_pattern Inv.j5 => Inv cfg s, s.W
scoped grind_pattern Inv.j2 => Inv cfg s, s.excl
scoped grind_pattern Inv.j3n => Inv cfg s, s.rwait
scoped grind_pattern Inv.lv_pw => Inv cfg s, s.lv.length
scoped grind_pattern Inv.w0_excl => Inv cfg s, s.excl
scoped grind_pattern Inv.j1 => Inv cfg s, s.pass
scoped grind_pattern Inv.j1 => Inv cfg s, s.pend
scoped grind_pattern Inv.pend_w => Inv cfg s, s.pend
scoped grind_pattern Inv.pend_none => Inv cfg s, s.pend
scoped grind_pattern Inv.jp_le => Inv cfg s, s.pend
scoped grind_pattern Inv.jp_le => Inv cfg s, s.pass
scoped grind_pattern Inv.jp_le => Inv cfg s, s.ifl.length
scoped grind_pattern Inv.j6 => Inv cfg s, s.prio
scoped grind_pattern Inv.j6b => Inv cfg s, s.WQ.length
scoped grind_pattern Inv.enq_live => Inv cfg s, s.enq
scoped grind_pattern Inv.l_ar => Inv cfg s, s.ar.count c
scoped grind_pattern Inv.l_ifl => Inv cfg s, s.ifl.count c
scoped grind_pattern Inv.l_lv => Inv cfg s, s.lv.count c
scoped grind_pattern Inv.l_q => Inv cfg s, s.Q.count c
scoped grind_pattern Inv.l_wq => Inv cfg s, s.WQ.count c
scoped grind_pattern Inv.l_torun => Inv cfg s, s.torun.count c
scoped grind_pattern Inv.l_excl => Inv cfg s, (s.pc c).isExcl
scoped grind_pattern Inv.l_excl => Inv cfg s, s.excl, some c
scoped grind_pattern Inv.l_held => Inv cfg s, (s.pc c).isHeld
scoped grind_pattern Inv.l_held => Inv cfg s, s.spin, Spin.held c
scoped grind_pattern Inv.l_runner => Inv cfg s, s.pc c, Pc.uRunR
scoped grind_pattern Inv.l_runner => Inv cfg s, s.runner, some c
scoped grind_pattern Inv.l_wrun => Inv cfg s, (s.pc c).isURunW
scoped grind_pattern Inv.l_wrun => Inv cfg s, s.wrun, some c
scoped grind_pattern Inv.l_pend => Inv cfg s, (s.pc c).isPassUnl
scoped grind_pattern Inv.l_pend => Inv cfg s, s.pendBy, some c
scoped grind_pattern Inv.l_wrun_t => Inv cfg s, s.pc c, Pc.uRunW n
scoped grind_pattern Inv.l_wgranted => Inv cfg s, s.pc n, Pc.wgranted
scoped grind_pattern Inv.l_ew_some => Inv cfg s, (s.pc c).isCntW
scoped grind_pattern Inv.l_enq_held => Inv cfg s, s.pc c, Pc.wUnl WUnl.enq
scoped grind_pattern Inv.l_enq_tail => Inv cfg s, Spin.tailOf c
scoped grind_pattern Inv.pw_a => Inv cfg s, PW.a n r
scoped grind_pattern Inv.pw_b => Inv cfg s, PW.b n
scoped grind_pattern Inv.pw_c => Inv cfg s, PW.c n b
scoped grind_pattern Inv.pc_wpost => Inv cfg s, s.pc c, Pc.wPost r
scoped grind_pattern Inv.pc_wparkedF => Inv cfg s, s.pc c, Pc.wparkedF
scoped grind_pattern Inv.pc_rRun => Inv cfg s, s.pc c, Pc.rRun
attribute [scoped grind .] Inv.pw_first
scoped grind_pattern Inv.j2w => Inv cfg s, (s.pc c).isStoredUnl
scoped grind_pattern Inv.j3a => Inv cfg s, PW.a n r
scoped grind_pattern Inv.j3b => Inv cfg s, PW.b n
scoped grind_pattern Inv.j3c => Inv cfg s, PW.c n b
scoped grind_pattern Inv.pend_amt => Inv cfg s, s.pc c, Branch.readersPass sr
scoped grind_pattern Inv.pend_amt => Inv cfg s, s.pc c, Branch.passOnly sr
scoped grind_pattern Inv.rp_w0 => Inv cfg s, s.pc c, Branch.readersPass sr
scoped grind_pattern Inv.po_q => Inv cfg s, s.pc c, Branch.passOnly sr
scoped grind_pattern Inv.pass_ge => Inv cfg s, s.pc c, Branch.readersPass sr
scoped grind_pattern Inv.pass_ge => Inv cfg s, s.pc c, Branch.passOnly sr
scoped grind_pattern Inv.need_w => Inv cfg s, (s.pc c).isNeedW
scoped grind_pattern Inv.rw_fifo => Inv cfg s, s.pc c, Branch.runWriter
scoped grind_pattern Inv.st_sw => Inv cfg s, s.pc c, Pc.uStore sw
scoped grind_pattern Inv.st_sw => Inv cfg s, s.pc c, Branch.stored sw
scoped grind_pattern Inv.j7 => Inv cfg s, (s.pc c).isULock
scoped grind_pattern Inv.busy_todo => Inv cfg s, s.todo c
scoped grind_pattern Inv.out_idle => Inv cfg s, cfg.prog c
scoped grind_pattern Inv.out_todo => Inv cfg s, cfg.prog c
scoped grind_pattern Inv.rounds => Inv cfg s, s.enters c
scoped grind_pattern Inv.parks => Inv cfg s, s.parks c
attribute [scoped grind] Pc.isAR Pc.isIFL Pc.isExcl Pc.isCntW Pc.isHeld Pc.isParked Pc.isInRound Pc.isStoredUnl Pc.isPassUnl
  Pc.isULock Pc.isURunW Pc.isNeedW
attribute [scoped grind =] PW.isSome_none PW.isSome_a PW.isSome_b PW.isSome_c PW.who_none PW.who_a PW.who_b PW.who_c PW.by_none
  PW.by_a PW.by_b PW.by_c PW.isAB_none PW.isAB_a PW.isAB_b PW.isAB_c
attribute [scoped grind →] Pc.held_of_passUnl Pc.held_of_storedUnl Pc.held_of_uLock Pc.held_of_needW Pc.excl_of_needW
  PW.eq_none_of_isSome
attribute [scoped grind cases] PW SpinK WUnl
attribute [scoped grind .] PW.isSome_of_ne erase_count_self erase_count_ne count_cons'
scoped grind_pattern erase_len => (l.erase c).length
scoped grind_pattern length_pos_of_ne_nil => l.tail
scoped grind_pattern len_pos_of_count => l.count c
end Auto

open Auto in
/-- while a writer is counted and none is pending in phase a/b, no reader holds the lock -/
theorem Inv.ar_nil_of_counted {cfg s} (hi : Inv cfg s) (hW : s.W ≠ 0) (hab : s.pw.isAB = false) : s.ar.length = 0 := by
  cases hpw : s.pw <;> grind

open Auto in
theorem Inv.not_rgranted {cfg s} (hi : Inv cfg s) (h0 : s.torun.length = 0) (x : Cid) : s.pc x ≠ .rgranted := by
  have := hi.l_torun x
  grind

/-- with no writer counted there is no pending first writer (`j5`) -/
theorem Inv.pw_none_of_W0 {cfg s} (hi : Inv cfg s) (hW : s.W = 0) : s.pw = .none := by
  have h5 := hi.j5
  cases hp : s.pw.isSome
  · exact PW.eq_none_of_isSome hp
  · rw [hW, hp] at h5; simp at h5; omega

/-- the owner of exclusivity: whether it is still counted in `W`, and the debt it may have stored -/
theorem Inv.owner {cfg s} (hi : Inv cfg s) (c : Cid) (he : (s.pc c).isExcl = true) :
    s.excl = some c ∧ s.ew = (if (s.pc c).isCntW then 1 else 0) ∧
      s.rwait = if (s.pc c).isStoredUnl then (s.qsize : Int) else 0 :=
  have hex := (hi.l_excl c).mp he
  ⟨hex, hi.l_ew_some c hex, hi.j2w c hex⟩

/-- only a writer about to link itself into the queue keeps `enq` up while it holds the spinlock -/
theorem Inv.enq_zero {cfg s} (hi : Inv cfg s) {c : Cid} (hs : s.spin = .held c) (hp : s.pc c ≠ .wUnl .enq) : s.enq = 0 := by
  rw [hi.l_enq_held c hs, if_neg hp]

/-- closes `Inv cfg s'` for the state `s'` after one step: the effect is unfolded in the goal, each clause goes to `grind`
    (its solvers for rings, ordered fields, AC and orders are off: the clauses need linear integer arithmetic only) -/
macro "inv_auto" : tactic =>
  `(tactic| (constructor <;> (try simp only [done, doRdFadd, lockedPc, doSpinOk, doRdUnlock, doEnter, doRdFsub, doRwFsub,
      doRunWriter, doRunFirst, doTryFail, doTrCasOk, failW, doTwLoad, doTwCasOk, doWrFadd, doWrPost, doWUnlock, doWuCasOk,
      doWuFsub, doRwStore, releaseReaders, doUUnlock, doRunR, upd]) <;> grind -ring -linarith -ac -order [List.count_le_length]))

open Auto in
/-- a step of `c` that stays within its class and keeps the count of `c`'s rounds balanced -/
theorem Inv.turn {cfg s} (hi : Inv cfg s) (c : Cid) {p' : Pc} {todo' : Cid → List Op} {enters' fails' : Cid → Nat}
    (hc : p'.cls = (s.pc c).cls) (h0 : p'.cls ≠ 0)
    (hx : ∀ x, x ≠ c → todo' x = s.todo x ∧ enters' x = s.enters x ∧ fails' x = s.fails x)
    (hb : p' ≠ .idle → todo' c ≠ [])
    (hr : enters' c + fails' c + (todo' c).length + (if (s.pc c).isInRound then 1 else 0) =
      s.enters c + s.fails c + (s.todo c).length + (if p'.isInRound then 1 else 0)) :
    Inv cfg { s with pc := upd s.pc c p', todo := todo', enters := enters', fails := fails' } := by
  have h1 := Pc.cls_spec h0
  have h2 := Pc.cls_spec (p := s.pc c) (hc ▸ h0)
  -- an empty program leaves no round to account for, so nothing is left to do
  have hout : cfg.prog c = [] → todo' c = [] := fun hp => by
    have := hi.rounds c
    have := hi.out_idle c hp
    have := hi.out_todo c hp
    have : Pc.idle.cls = 1 := rfl
    have := @length_pos_of_ne_nil _ (todo' c)
    grind
  inv_auto

/-- a step that only moves `c` within its class -/
theorem Inv.move {cfg s} (hi : Inv cfg s) (c : Cid) {p' : Pc}
    (hc : p'.cls = (s.pc c).cls ∧ p'.isInRound = (s.pc c).isInRound) (h0 : p'.cls ≠ 0)
    (hb : p' ≠ .idle → s.todo c ≠ []) : Inv cfg { s with pc := upd s.pc c p' } :=
  hi.turn c hc.1 h0 (fun _ _ => ⟨rfl, rfl, rfl⟩) hb (by rw [hc.2])

def grpOf : Label → Nat
  | .rdFadd _ => 0 | .spinXchg _ _ => 0
  | .spinLoad _ _ => 1 | .rdUnlock _ => 1
  | .enter _ => 2 | .exit _ => 2
  | .rdFsub _ => 3 | .rwFsub _ => 3
  | .runFirst _ _ => 4 | .trLoad _ _ _ => 4 | .tryFail _ => 4
  | .trCas _ _ => 5 | .twLoad _ _ => 5
  | .twCas _ _ => 6 | .wrFadd _ => 6
  | .wrPost _ => 7 | .wUnlock _ => 7
  | .tailUnlock _ => 8 | .wuCas _ _ => 8
  | .wuFsub _ => 9
  | .rwStore _ => 10 | .uUnlock _ => 11
  | .runW _ _ => 12 | .runR _ _ => 12

end Yaclib.CoSharedMutex
