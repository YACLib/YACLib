/- Invariant of the C18 model `Sm` (SharedMutex / SharedTimedMutex). -/
import YaclibModel.Model.FiberSyncShared
import YaclibModel.Proofs.FiberSync

namespace Yaclib.FiberSync.Sm
open Yaclib.FiberSync

theorem length_one_erase {l : List Fid} {f : Fid} (h : f ∈ l) (h1 : l.length = 1) : l.erase f = [] := by
  have := Mx.length_erase_mem h
  exact List.length_eq_zero_iff.mp (by omega)

structure Inv (k : Bool) (s : State) : Prop where
  hk : s.timed = k
  /-- the flags describe the holders exactly: free / one writer / readers -/
  modes :
    (s.occ = false ∧ s.xh = [] ∧ s.sh = [] ∧ s.cnt = 0) ∨
    (s.occ = true ∧ s.excl = true ∧ s.xh.length = 1 ∧ s.sh = [] ∧ s.cnt = 0) ∨
    (s.occ = true ∧ s.excl = false ∧ s.xh = [] ∧ s.sh.length = s.cnt ∧ 0 < s.cnt)
  /-- notified writers re-evaluate their condition next -/
  transit_pc : ∀ g, g ∈ s.transit → (s.pc g).recheckX = true
  /-- no lost wake-up for writers: a free lock with parked writers has a notified writer on its way -/
  free_transit : s.occ = false → s.eq ≠ [] → s.transit ≠ []
  /-- readers are parked only while a writer holds the lock -/
  sq_held : s.sq ≠ [] → s.occ = true ∧ s.excl = true
  eq_pc : ∀ g, g ∈ s.eq → (s.pc g).onE = true
  pc_eq : ∀ g, (s.pc g).onE = true → g ∈ s.eq
  sq_pc : ∀ g, g ∈ s.sq → (s.pc g).onS = true
  pc_sq : ∀ g, (s.pc g).onS = true → g ∈ s.sq
  dl_tx : ∀ g r d, s.pc g = .txParked r d → r ≤ d
  dl_ts : ∀ g r d, s.pc g = .tsParked r d → r ≤ d
  tx_timed : ∀ g r d, s.pc g = .txParked r d → s.timed = true
  ts_timed : ∀ g r d, s.pc g = .tsParked r d → s.timed = true
  txl_timed : ∀ g r, s.pc g = .txLocking r → s.timed = true
  tsl_timed : ∀ g r, s.pc g = .tsLocking r → s.timed = true

theorem inv_init (k : Bool) (n : Nat) : Inv k (init k n) := by
  constructor <;> (simp only [init]) <;> grind [Pc.recheckX, Pc.onE, Pc.onS]

/-- what `NotifyAll` / `NotifyOne` does to a fiber: a parked one re-evaluates the condition of the call that parked it -/
theorem wake_cases {p : Pc} :
    (p = .xParked ∧ wake p = .xLocking) ∨ (∃ r d, p = .txParked r d ∧ wake p = .txLocking r) ∨
    (p = .sParked ∧ wake p = .sLocking) ∨ (∃ r d, p = .tsParked r d ∧ wake p = .tsLocking r) ∨
    (p.onE = false ∧ p.onS = false ∧ wake p = p) := by
  cases p <;> simp [Pc.onE, Pc.onS, wake]

/-- a fiber waits on at most one queue -/
theorem Inv.sq_eq {k s} (hi : Inv k s) {g : Fid} (hs : g ∈ s.sq) (he : g ∈ s.eq) : False := by
  have h1 := hi.sq_pc g hs
  have h2 := hi.eq_pc g he
  cases h : s.pc g <;> simp_all [Pc.onS, Pc.onE]

/- Inside `Auto`, `grind` reads `hi : Inv k s` as a source of facts: a clause is instantiated when the term it speaks
   of occurs. -/
namespace Auto
scoped grind_pattern Inv.hk => Inv k s, s.timed
scoped grind_pattern Inv.modes => Inv k s, s.xh
scoped grind_pattern Inv.modes => Inv k s, s.sh
scoped grind_pattern Inv.modes => Inv k s, s.cnt
scoped grind_pattern Inv.free_transit => Inv k s, s.transit
scoped grind_pattern Inv.sq_held => Inv k s, s.sq
attribute [scoped grind →] Inv.transit_pc Inv.eq_pc Inv.pc_eq Inv.sq_pc Inv.pc_sq Inv.dl_tx Inv.dl_ts Inv.tx_timed
  Inv.ts_timed Inv.txl_timed Inv.tsl_timed Inv.sq_eq
attribute [scoped grind] Pc.recheckX Pc.onE Pc.onS PickOk XHeld UnlockSPick
attribute [scoped grind =] upd_apply mem_rm Mx.rm_nil List.append_eq_nil_iff length_one_erase Mx.length_erase_mem
scoped grind_pattern wake_cases => wake p
end Auto

/-- closes `Inv k s'` for the state `s'` after one step: the effect is unfolded in the goal, each clause goes to `grind` -/
macro "sm_auto" : tactic =>
  `(tactic| ((try simp only [lockHelper, sharedHelper, notifyE, notifyAllS, doUnlock, doUnlockS, parkE,
      parkS]); constructor <;> grind -ring -linarith -ac -order))

end Yaclib.FiberSync.Sm
