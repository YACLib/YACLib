/- Second invariant of the C01 model: conservation of the single completion
   ("no completion is ever lost or duplicated") and the link between outcomes and the consumer kind. -/
import YaclibModel.Proofs.UniqueInv

namespace Yaclib.Unique

def isFireNE : PPc → Bool
  | .fire .event => false
  | .fire _ => true
  | .submitted => true
  | _ => false

def isCbNE : Word → Bool
  | .cb .event => false
  | .cb _ => true
  | _ => false

/-- how many times the outcome the consumer asked for has happened -/
def outcomeCount (w : Workload) (s : State) : Nat :=
  match w.fin with
  | .attach _ => s.delivered.length
  | .drop => s.dropped.length
  | .getMove => s.got.length
  | .connect => s.forwarded.length

structure Inv2 (w : Workload) (s : State) : Prop where
  fin_in : ∀ f, COp.fin f ∈ s.todo → f = w.fin
  kind_word : ∀ k, s.word = .cb k → k ≠ .event → finCb w.fin = some k
  kind_fire : ∀ k, s.ppc = .fire k → k ≠ .event → finCb w.fin = some k
  kind_sub : s.ppc = .submitted → finCb w.fin = some .cont
  kind_attl : ∀ k, s.cpc = .attLoaded k → k ≠ .event → finCb w.fin = some k
  kind_attf : ∀ k, s.cpc = .attFailed k → finCb w.fin = some k
  kind_csub : s.cpc = .submitted → finCb w.fin = some .cont
  kind_got : s.cpc = .repGot → w.fin = .getMove
  /-- exactly one of: the outcome happened / the producer is about to produce it / the callback sits
      in the word / the consumer has not finished its consuming operation -/
  conserve : outcomeCount w s + (if isFireNE s.ppc then 1 else 0) + (if isCbNE s.word then 1 else 0)
      + (if s.todo = [] then 0 else 1) = 1
  only_deliver : (∀ b, w.fin ≠ .attach b) → s.delivered = []
  only_drop : w.fin ≠ .drop → s.dropped = []
  only_got : w.fin ≠ .getMove → s.got = []
  only_fwd : w.fin ≠ .connect → s.forwarded = []

theorem inv2_init (w : Workload) : Inv2 w (init w) := by
  constructor <;> simp [init, isFireNE, isCbNE, outcomeCount]
  · cases w.fin <;> simp

theorem fin_kind_of_op {w : Workload} {t : List COp} {op : COp} {k : Cb}
    (hfin : ∀ f, COp.fin f ∈ t → f = w.fin) (hmem : op ∈ t) (hk : opCb op = some k) (hne : k ≠ .event) :
    finCb w.fin = some k := by
  cases op with
  | pre o => cases o <;> simp [opCb] at hk; exact absurd hk.symm hne
  | fin f => rw [← hfin f hmem]; simpa [opCb] using hk

-- `grind` annotations for the clauses of `Inv2`, visible only where `Auto` is opened
namespace Auto
attribute [scoped grind! →] Inv2.fin_in
attribute [scoped grind →] Inv2.kind_word Inv2.kind_fire Inv2.kind_attl Inv2.kind_attf Inv2.kind_sub Inv2.kind_csub
  Inv2.kind_got Inv2.conserve Inv2.only_deliver Inv2.only_drop Inv2.only_got Inv2.only_fwd List.mem_of_mem_tail
attribute [scoped grind] isFireNE isCbNE finCb opCb outcomeCount
end Auto

open Auto

theorem inv2_attLoad {w s op rest k x} (hi : Inv w s) (h2 : Inv2 w s) (h : s.cpc = .idle) (ht : s.todo = op :: rest)
    (hk : opCb op = some k) (hx : loadOk s x) : Inv2 w (doAttLoad s op k x) := by
  have hfk := fin_kind_of_op h2.fin_in (ht ▸ List.mem_cons_self) hk
  by_cases hxe : x = .empty
  · simp only [doAttLoad, hxe, ↓reduceIte]; inv_auto
  · cases k with
    | event =>
        cases hop : decide (op = .fin .getMove) <;>
          simp only [doAttLoad, hxe, afterFail, hop, Bool.false_eq_true, ↓reduceIte] <;> inv_auto
    | _ => simp only [doAttLoad, hxe, afterFail, ↓reduceIte] <;> inv_auto

theorem inv2_casFail {w s k} (hi : Inv w s) (h2 : Inv2 w s) (h : s.cpc = .attLoaded k) (hw : s.word ≠ .empty) :
    Inv2 w (afterFail s k) := by
  cases k with
  | event => cases hwf : s.waitFin <;> simp only [afterFail, hwf, Bool.false_eq_true, ↓reduceIte] <;> inv_auto
  | _ => simp only [afterFail] <;> inv_auto

theorem inv2_step {w s l s'} (hi : Inv w s) (h2 : Inv2 w s) (hs : Step s l s') : Inv2 w s' := by
  cases hs with
  | pXchg h hw =>
      cases hwd : s.word with
      | result => exact absurd hwd hw
      | empty => simp only [doXchg, hwd]; inv_auto
      | cb k => cases k <;> simp only [doXchg, hwd] <;> inv_auto
  | cAttLoad op rest k x h ht hk hx => exact inv2_attLoad hi h2 h ht hk hx
  | cCasOk k h hw => cases k <;> inv_auto
  | cCasFail k h hw => exact inv2_casFail hi h2 h hw
  | cWaitDone h => cases hwf : s.waitFin <;> simp only [doCWaitDone, hwf, Bool.false_eq_true, ↓reduceIte] <;> inv_auto
  | _ => inv_auto

theorem inv2_reachable {w s} (h : Reachable w s) : Inv2 w s := by
  induction h with
  | init => exact inv2_init w
  | step hr hs ih => exact inv2_step (inv_reachable hr) ih hs

end Yaclib.Unique
