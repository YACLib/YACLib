/- Invariants of the C13 model (Model/Coro.lean): definitions, small lemmas, initial state. -/
import YaclibModel.Model.Coro

namespace Yaclib.Coro

/-- arity of the awaiters and no awaited object twice in one awaiter (preconditions of the API: `Await(f, f)` on a unique
    future registers two callbacks on a one-callback word) -/
def Op.wf (op : Op) : Prop :=
  op.cells.Nodup ∧
  (match op.kind with
   | .single | .sticky | .on _ | .task => op.cells.length = 1
   | .resched _ | .current => op.cells = []
   | _ => True)

def Workload.WF (w : Workload) : Prop := ∀ op ∈ w.prog, op.wf

/-- my callbacks registered in the word or not yet run by the fulfiller -/
def Word.cbs : Word → List Nat
  | .open l _ => l
  | .result l => l

/-- inside an awaiter -/
def inOp : CPc → Bool
  | .idle | .fin | .done | .gone => false
  | _ => true

/-- the awaiter has decided: the coroutine is (about to be) resumed or dropped -/
def decided : CPc → Bool
  | .wake _ | .subm _ | .queued _ | .curr => true
  | _ => false

def ctxOk (k : AKind) (c : Ctx) : Bool :=
  match c, k with
  | .inl, .single | .inl, .sticky | .inl, .multi | .inl, .multiSticky => true
  | .cell _, .single | .cell _, .multi | .cell _, .task => true
  | .exec _, .sticky | .exec _, .multiSticky | .exec _, .resched none => true
  | .exec e, .on e' | .exec e, .multiOn e' | .exec e, .resched (some e') => e == e'
  | _, _ => false

def execOk (k : AKind) (e : Nat) : Bool :=
  match k with
  | .sticky | .multiSticky | .resched none => true
  | .on e' | .multiOn e' | .resched (some e') => e == e'
  | _ => false

/-- the executor a program position speaks about -/
def pcExec : CPc → Option Nat
  | .subm e | .queued e | .wake (.exec e) => some e
  | _ => none

/-- awaiters that resubmit to the coroutine's own executor -/
def ownKind : AKind → Bool
  | .sticky | .multiSticky | .resched none => true
  | _ => false

theorem ctxOk_of_execOk {k : AKind} {e : Nat} (h : execOk k e = true) : ctxOk k (.exec e) = true := by
  cases k <;> simp_all [execOk, ctxOk]
  all_goals (rename_i o; cases o <;> simp_all)

/-- awaiters that register callbacks through SetCallback -/
def regKind : AKind → Bool
  | .single | .sticky | .on _ | .multi | .multiSticky | .multiOn _ => true
  | _ => false

/-- awaiters that wait for awaited objects at all -/
def awaitsCells : AKind → Bool
  | .resched _ | .current => false
  | _ => true

/-- which program positions are possible for which awaiter -/
def pcKindOk (pc : CPc) (op : Op) : Bool :=
  match pc with
  | .rdy => emptyBased op.kind
  | .rdyL _ => emptyBased op.kind && decide (0 < op.cells.length)
  | .reg p | .cas p => regKind op.kind && decide (p < op.cells.length)
  | .msub | .msusp => isMulti op.kind
  | .mld | .mrd _ => (match op.kind with | .multi | .multiSticky => true | _ => false)
  | .tstore => op.kind = .task
  | .curr => op.kind = .current
  | .susp => awaitsCells op.kind
  | .subm e | .queued e => execOk op.kind e
  | .wake c => ctxOk op.kind c
  | _ => true

theorem selfDone_ok {op : Op} (h : regKind op.kind = true) : pcKindOk (selfDone op.kind) op = true := by
  cases hk : op.kind <;> simp_all [regKind, selfDone, pcKindOk, execOk, ctxOk]

theorem cbDone_ok {op : Op} (j e : Nat) (h : awaitsCells op.kind = true) : pcKindOk (cbDone op.kind j e) op = true := by
  cases hk : op.kind <;> simp_all [awaitsCells, cbDone, pcKindOk, execOk, ctxOk]

theorem subNext_ok {op : Op} (h : isMulti op.kind = true) : pcKindOk (subNext op.kind) op = true := by
  cases hk : op.kind <;> simp_all [isMulti, subNext, pcKindOk]

theorem inOp_selfDone (k : AKind) : inOp (selfDone k) = true := by cases k <;> simp [selfDone, inOp]
theorem inOp_cbDone (k : AKind) (j e : Nat) : inOp (cbDone k j e) = true := by cases k <;> simp [cbDone, inOp]
theorem inOp_subNext (k : AKind) : inOp (subNext k) = true := by cases k <;> simp [subNext, inOp]

theorem pcExec_selfDone {k : AKind} (h : ownKind k = true) : pcExec (selfDone k) = none := by
  cases k <;> simp_all [ownKind, selfDone, pcExec]

theorem pcExec_cbDone {k : AKind} {j e e' : Nat} (h : ownKind k = true) (he : pcExec (cbDone k j e) = some e') : e' = e := by
  cases k <;> simp_all [ownKind, cbDone, pcExec]

theorem pcExec_subNext (k : AKind) : pcExec (subNext k) = none := by cases k <;> simp [subNext, pcExec]

theorem regKind_of_emptyBased {k : AKind} (h : emptyBased k = true) : regKind k = true := by
  cases k <;> simp_all [emptyBased, regKind]
theorem regKind_of_isMulti {k : AKind} (h : isMulti k = true) : regKind k = true := by
  cases k <;> simp_all [isMulti, regKind]
theorem awaitsCells_of_regKind {k : AKind} (h : regKind k = true) : awaitsCells k = true := by
  cases k <;> simp_all [awaitsCells, regKind]
theorem ctxOk_inl_of_emptyBased {k : AKind} (h : emptyBased k = true) : ctxOk k .inl = true := by
  cases k <;> simp_all [emptyBased, ctxOk]
theorem ctxOk_inl_of_mld {k : AKind} (h : (match k with | .multi | .multiSticky => true | _ => false) = true) :
    ctxOk k .inl = true := by
  cases k <;> simp_all [ctxOk]
theorem isMulti_of_mld {k : AKind} (h : (match k with | .multi | .multiSticky => true | _ => false) = true) :
    isMulti k = true := by
  cases k <;> simp_all [isMulti]

theorem upd_same (f : Nat → Cell) (j : Nat) (c : Cell) : upd f j c j = c := by simp [upd]
theorem upd_other (f : Nat → Cell) (j i : Nat) (c : Cell) (h : i ≠ j) : upd f j c i = f i := by simp [upd, h]

theorem setWord_word (s : State) (j i : Nat) (wd : Word) :
    (s.setWord j wd).word i = if i = j then wd else s.word i := by
  simp only [State.setWord, State.word, upd]; split <;> simp_all

theorem cells_word (s : State) (j : Nat) : (s.cells j).word = s.word j := rfl

theorem count_partition (l : List CbSt) :
    l.length = l.count .todo + l.count .pending + l.count .failed + l.count .fired := by
  induction l with
  | nil => simp
  | cons x xs ih => cases x <;> simp <;> omega

theorem count_set_of_getElem? {l : List CbSt} {p : Nat} {x a b : CbSt} (h : l[p]? = some x) :
    (l.set p a).count b + (if x = b then 1 else 0) = l.count b + (if a = b then 1 else 0) := by
  obtain ⟨hp, hx⟩ := List.getElem?_eq_some_iff.mp h
  rw [List.count_set hp, hx]
  have hpos : 0 < l.count x := List.count_pos_iff.mpr (hx ▸ List.getElem_mem hp)
  by_cases h1 : x = b
  · subst h1; by_cases h2 : a = x <;> simp [h2] <;> omega
  · by_cases h2 : a = b <;> simp [h1, h2] <;> omega

theorem lt_of_getElem?_some {α} {l : List α} {p : Nat} {x : α} (h : l[p]? = some x) : p < l.length :=
  (List.getElem?_eq_some_iff.mp h).1

theorem mem_of_getElem? {l : List CbSt} {p : Nat} {x : CbSt} (h : l[p]? = some x) : x ∈ l :=
  List.mem_iff_getElem?.mpr ⟨p, h⟩

theorem count_eq_zero_of_not_mem {l : List CbSt} {x : CbSt} (h : x ∉ l) : l.count x = 0 := List.count_eq_zero_of_not_mem h

theorem not_mem_of_count_eq_zero {l : List CbSt} {x : CbSt} (h : l.count x = 0) : x ∉ l := by
  intro hm; have := List.count_pos_iff.mpr hm; omega

/-- the structural part: where the coroutine is in its program and in its awaiter -/
structure InvA (w : Workload) (s : State) : Prop where
  hw : s.w = w
  todo_eq : s.todo = w.prog.drop s.k ∨ (s.failed = true ∧ s.todo = [])
  k_le : s.k ≤ w.prog.length
  inop : inOp s.pc = true → s.todo ≠ []
  st_len : ∀ op rest, s.todo = op :: rest → inOp s.pc = true → s.st.length = op.cells.length
  pc_kind : ∀ op rest, s.todo = op :: rest → pcKindOk s.pc op = true
  /-- sticky awaiters and Yield submit to the executor the coroutine had when the co_await started -/
  own_exec : ∀ op rest, s.todo = op :: rest → inOp s.pc = true →
    ownKind op.kind = true →
    s.exec = s.ex0 ∧ (∀ e, pcExec s.pc = some e → e = s.ex0)

theorem invA_init (w : Workload) : InvA w (init w) := by
  constructor <;> simp [init, inOp, pcKindOk]

theorem drop_succ_of_cons {α} {l : List α} {k : Nat} {a : α} {r : List α} (h : l.drop k = a :: r) :
    l.drop (k + 1) = r ∧ k + 1 ≤ l.length := by
  have hk : k < l.length := by
    rcases Nat.lt_or_ge k l.length with h1 | h1
    · exact h1
    · rw [List.drop_eq_nil_of_le h1] at h; cases h
  refine ⟨?_, hk⟩
  have := List.drop_eq_getElem_cons hk
  rw [this] at h
  injection h with _ h2

theorem InvA.drop_eq {w : Workload} {s : State} {op : Op} {rest : List Op} (ha : InvA w s) (ht : s.todo = op :: rest) :
    w.prog.drop s.k = op :: rest := by
  rcases ha.todo_eq with h | h
  · rw [← h, ht]
  · rw [h.2] at ht; cases ht

/-- positions after the registration loop at which the awaiter still waits -/
def afterRegPc : CPc → Bool
  | .msub | .mld | .mrd _ | .msusp | .susp => true
  | _ => false

/-- positions before any SetCallback of the awaiter -/
def freshPc : CPc → Bool
  | .rdy | .rdyL _ | .tstore => true
  | _ => false

def regPos : CPc → Option Nat
  | .reg p | .cas p => some p
  | _ => none

/-- the link between the awaited words and the per-object status of the current awaiter -/
structure InvB (w : Workload) (s : State) : Prop where
  /-- callbacks of other parties only where other parties can reach the core -/
  foreign_unsafe : ∀ j l, s.word j = .open l true → w.unsafeCell j = true
  nodup : ∀ j, (s.word j).cbs.Nodup
  /-- a registered (or not yet run) callback of mine belongs to the current awaiter, which is still waiting … -/
  cbs_inop : ∀ j p, p ∈ (s.word j).cbs → inOp s.pc = true ∧ decided s.pc = false
  /-- … sits in the word of the object it was registered on, and is `pending` -/
  cbs_cell : ∀ j p op rest, p ∈ (s.word j).cbs → s.todo = op :: rest → op.cells[p]? = some j ∧ s.st[p]? = some .pending
  cbs_single : ∀ j p op rest, p ∈ (s.word j).cbs → s.todo = op :: rest → isMulti op.kind = false → s.pc = .susp
  /-- a pending callback is in the word (or about to be run): it cannot be lost -/
  pend_cbs : ∀ (op : Op) (rest : List Op) (p j : Nat), s.todo = op :: rest → inOp s.pc = true → op.cells[p]? = some j → s.st[p]? = some .pending →
    p ∈ (s.word j).cbs
  /-- SetCallback returned false / the callback was run only if the object is complete -/
  settled_res : ∀ (op : Op) (rest : List Op) (p j : Nat), s.todo = op :: rest → inOp s.pc = true → op.cells[p]? = some j →
    (s.st[p]? = some CbSt.failed ∨ s.st[p]? = some CbSt.fired) → (s.word j).isResult = true
  reg_phase : ∀ (p q : Nat) (x : CbSt), regPos s.pc = some p → s.st[q]? = some x → (x = .todo ↔ p ≤ q)
  fresh : freshPc s.pc = true → ∀ (q : Nat) (x : CbSt), s.st[q]? = some x → x = .todo
  no_todo : afterRegPc s.pc = true → ∀ (q : Nat), s.st[q]? ≠ some CbSt.todo
  no_pend : decided s.pc = true → ∀ (q : Nat), s.st[q]? ≠ some CbSt.pending
  /-- **the coroutine is resumed / submitted / dropped only when everything it awaits is complete** -/
  all_res : decided s.pc = true → ∀ op rest j, s.todo = op :: rest → j ∈ op.cells → (s.word j).isResult = true
  rdy_res : s.pc = .rdyL .result → ∀ op rest j, s.todo = op :: rest → op.cells[0]? = some j → (s.word j).isResult = true
  susp_single : s.pc = .susp → ∀ op rest, s.todo = op :: rest → isMulti op.kind = false → s.st[0]? = some .pending
  wake_cell : ∀ j, s.pc = .wake (.cell j) → ∀ op rest, s.todo = op :: rest → j ∈ op.cells

/-- the await counter -/
structure InvC (w : Workload) (s : State) : Prop where
  multi_reg : ∀ op rest, s.todo = op :: rest → isMulti op.kind = true → (regPos s.pc ≠ none ∨ s.pc = .msub) →
    s.cnt + s.st.count .fired = op.cells.length + 1
  multi_mid : ∀ op rest, s.todo = op :: rest → (s.pc = .mld ∨ s.pc = .msusp ∨ (∃ v, s.pc = .mrd v)) →
    s.cnt = 1 + s.st.count .pending
  mrd_le : ∀ v, s.pc = .mrd v → s.cnt ≤ v
  multi_susp : ∀ op rest, s.todo = op :: rest → isMulti op.kind = true → s.pc = .susp →
    s.cnt = s.st.count .pending ∧ 1 ≤ s.cnt
  on_cnt : ∀ op rest, s.todo = op :: rest → counted op.kind = true → isMulti op.kind = false → inOp s.pc = true →
    decided s.pc = false → s.cnt = 1

theorem invB_init (w : Workload) : InvB w (init w) := by
  constructor <;> simp [init, inOp, decided, State.word, initCell, Word.cbs, regPos, freshPc, afterRegPc]

theorem invC_init (w : Workload) : InvC w (init w) := by
  constructor <;> simp [init, inOp, decided, regPos]

theorem selfDone_decided (k : AKind) : decided (selfDone k) = true := by cases k <;> rfl
theorem selfDone_not_cell (k : AKind) (j : Nat) : selfDone k ≠ .wake (.cell j) := by cases k <;> simp [selfDone]
theorem selfDone_regPos (k : AKind) : regPos (selfDone k) = none := by cases k <;> rfl
theorem selfDone_fresh (k : AKind) : freshPc (selfDone k) = false := by cases k <;> rfl
theorem selfDone_afterReg (k : AKind) : afterRegPc (selfDone k) = false := by cases k <;> rfl
theorem selfDone_ne_susp (k : AKind) : selfDone k ≠ .susp := by cases k <;> simp [selfDone]
theorem selfDone_ne_rdyL (k : AKind) (x : Obs) : selfDone k ≠ .rdyL x := by cases k <;> simp [selfDone]

theorem subNext_afterReg (k : AKind) : afterRegPc (subNext k) = true := by cases k <;> rfl
theorem subNext_decided (k : AKind) : decided (subNext k) = false := by cases k <;> rfl
theorem subNext_regPos (k : AKind) : regPos (subNext k) = none := by cases k <;> rfl
theorem subNext_fresh (k : AKind) : freshPc (subNext k) = false := by cases k <;> rfl
theorem subNext_ne_susp (k : AKind) : subNext k ≠ .susp := by cases k <;> simp [subNext]
theorem subNext_ne_rdyL (k : AKind) (x : Obs) : subNext k ≠ .rdyL x := by cases k <;> simp [subNext]
theorem subNext_ne_wake (k : AKind) (c : Ctx) : subNext k ≠ .wake c := by cases k <;> simp [subNext]

theorem cbDone_decided (k : AKind) (j e : Nat) : decided (cbDone k j e) = true := by cases k <;> rfl
theorem cbDone_regPos (k : AKind) (j e : Nat) : regPos (cbDone k j e) = none := by cases k <;> rfl
theorem cbDone_fresh (k : AKind) (j e : Nat) : freshPc (cbDone k j e) = false := by cases k <;> rfl
theorem cbDone_afterReg (k : AKind) (j e : Nat) : afterRegPc (cbDone k j e) = false := by cases k <;> rfl
theorem cbDone_ne_susp (k : AKind) (j e : Nat) : cbDone k j e ≠ .susp := by cases k <;> simp [cbDone]
theorem cbDone_ne_rdyL (k : AKind) (j e : Nat) (x : Obs) : cbDone k j e ≠ .rdyL x := by cases k <;> simp [cbDone]
theorem cbDone_cell (k : AKind) (j e j' : Nat) (h : cbDone k j e = .wake (.cell j')) : j' = j := by
  cases k <;> simp_all [cbDone]

theorem all_result_of_settled {cells : List Nat} {st : List CbSt} {word : Nat → Word}
    (hlen : st.length = cells.length) (hnt : ∀ (q : Nat), st[q]? ≠ some CbSt.todo) (hnp : ∀ (q : Nat), st[q]? ≠ some CbSt.pending)
    (hL1 : ∀ (p j : Nat), cells[p]? = some j → (st[p]? = some CbSt.failed ∨ st[p]? = some CbSt.fired) → (word j).isResult = true) :
    ∀ j ∈ cells, (word j).isResult = true := by
  intro j hj
  obtain ⟨p, hp⟩ := List.mem_iff_getElem?.mp hj
  have hps : p < st.length := by have := lt_of_getElem?_some hp; omega
  have hx : st[p]? = some st[p] := List.getElem?_eq_getElem hps
  apply hL1 p j hp
  cases hv : st[p] with
  | todo => rw [hv] at hx; exact absurd hx (hnt p)
  | pending => rw [hv] at hx; exact absurd hx (hnp p)
  | failed => left; rw [hx, hv]
  | fired => right; rw [hx, hv]

theorem op_wf {w : Workload} {s : State} {op : Op} {rest : List Op} (hwf : w.WF) (ha : InvA w s)
    (ht : s.todo = op :: rest) : op.wf :=
  hwf op (List.mem_of_mem_drop (ha.drop_eq ht ▸ List.mem_cons_self))

theorem wf_single {op : Op} (h : op.wf) (hk : awaitsCells op.kind = true) (hm : isMulti op.kind = false) :
    op.cells.length = 1 := by
  have := h.2
  cases hk' : op.kind <;> simp_all [awaitsCells, isMulti]

theorem wf_nocells {op : Op} (h : op.wf) (hk : awaitsCells op.kind = false) : op.cells = [] := by
  have := h.2
  cases hk' : op.kind <;> simp_all [awaitsCells]

theorem wf_inj {op : Op} (h : op.wf) {p q j : Nat} (hp : op.cells[p]? = some j) (hq : op.cells[q]? = some j) : p = q := by
  obtain ⟨_, hp⟩ := List.getElem?_eq_some_iff.mp hp
  obtain ⟨_, hq⟩ := List.getElem?_eq_some_iff.mp hq
  exact (List.getElem_inj h.1).mp (hp.trans hq.symm)

theorem todo_cons_of_inop {w : Workload} {s : State} (ha : InvA w s) (h : inOp s.pc = true) :
    ∃ op rest, s.todo = op :: rest := by
  cases ht : s.todo with
  | nil => exact absurd ht (ha.inop h)
  | cons op rest => exact ⟨op, rest, rfl⟩

/-- before the first SetCallback of an awaiter none of my callbacks is registered anywhere -/
theorem no_cbs_of_fresh {w : Workload} {s : State} (ha : InvA w s) (hb : InvB w s) (hf : freshPc s.pc = true) :
    ∀ j p, p ∉ (s.word j).cbs := by
  intro j p hp
  obtain ⟨op, rest, ht⟩ := todo_cons_of_inop ha (hb.cbs_inop j p hp).1
  have h1 := (hb.cbs_cell j p op rest hp ht).2
  have h2 := hb.fresh hf _ _ h1
  cases h2

theorem no_cbs_of_decided {w : Workload} {s : State} (hb : InvB w s) (hd : decided s.pc = true) :
    ∀ j p, p ∉ (s.word j).cbs := by
  intro j p hp
  have := (hb.cbs_inop j p hp).2
  rw [hd] at this; cases this

theorem no_cbs_of_not_inop {w : Workload} {s : State} (hb : InvB w s) (hd : inOp s.pc = false) :
    ∀ j p, p ∉ (s.word j).cbs := by
  intro j p hp
  have := (hb.cbs_inop j p hp).1
  rw [hd] at this; cases this

theorem no_cbs_of_no_pending {w : Workload} {s : State} (ha : InvA w s) (hb : InvB w s)
    (hnp : ∀ (q : Nat), s.st[q]? ≠ some CbSt.pending) : ∀ j p, p ∉ (s.word j).cbs := by
  intro j p hp
  obtain ⟨op, rest, ht⟩ := todo_cons_of_inop ha (hb.cbs_inop j p hp).1
  exact hnp p (hb.cbs_cell j p op rest hp ht).2

theorem count_eq_zero_of_forall_ne {l : List CbSt} {x : CbSt} (h : ∀ (q : Nat), l[q]? ≠ some x) : l.count x = 0 := by
  apply List.count_eq_zero_of_not_mem
  intro hm
  obtain ⟨q, hq⟩ := List.mem_iff_getElem?.mp hm
  exact h q hq

theorem forall_ne_of_count_eq_zero {l : List CbSt} {x : CbSt} (h : l.count x = 0) : ∀ (q : Nat), l[q]? ≠ some x := by
  intro q hq
  exact not_mem_of_count_eq_zero h (mem_of_getElem? hq)

/- Scoped `grind` annotations for the preservation proofs.  `AutoA` / `AutoB` / `AutoC` let the clauses of one invariant be
   instantiated from the folded hypothesis `InvA w s` / `InvB w s` / `InvC w s`; `Auto` holds the lemmas about the awaiters'
   program positions and about lists.  One namespace per invariant: a proof opens only the block of the invariant it preserves
   and states what it needs of the others, since with all blocks open every goal instantiates every clause of every invariant,
   which about doubles the work per goal. -/
namespace AutoA
attribute [scoped grind →] InvA.hw InvA.todo_eq InvA.k_le InvA.inop InvA.st_len InvA.pc_kind InvA.own_exec
end AutoA

namespace AutoB
attribute [scoped grind →] InvB.foreign_unsafe InvB.cbs_inop InvB.cbs_cell InvB.cbs_single InvB.reg_phase InvB.susp_single
  InvB.wake_cell
attribute [scoped grind! .] InvB.nodup InvB.settled_res InvB.all_res InvB.rdy_res
attribute [scoped grind .] InvB.pend_cbs InvB.fresh InvB.no_todo InvB.no_pend
end AutoB

namespace AutoC
attribute [scoped grind →] InvC.multi_reg InvC.multi_mid InvC.mrd_le InvC.multi_susp InvC.on_cnt
end AutoC

namespace Auto
attribute [scoped grind =] cells_word setWord_word
attribute [scoped grind →] ctxOk_of_execOk drop_succ_of_cons pcExec_cbDone regKind_of_emptyBased regKind_of_isMulti
  awaitsCells_of_regKind ctxOk_inl_of_emptyBased ctxOk_inl_of_mld isMulti_of_mld
attribute [scoped grind ←] selfDone_ok cbDone_ok subNext_ok
attribute [scoped grind =] inOp_selfDone inOp_cbDone inOp_subNext pcExec_selfDone pcExec_subNext
attribute [scoped grind .] selfDone_not_cell selfDone_ne_susp selfDone_ne_rdyL subNext_ne_susp subNext_ne_rdyL subNext_ne_wake
  cbDone_ne_susp cbDone_ne_rdyL
scoped grind_pattern selfDone_decided => selfDone k
scoped grind_pattern selfDone_regPos => selfDone k
scoped grind_pattern selfDone_fresh => selfDone k
scoped grind_pattern selfDone_afterReg => selfDone k
scoped grind_pattern subNext_decided => subNext k
scoped grind_pattern subNext_regPos => subNext k
scoped grind_pattern subNext_fresh => subNext k
scoped grind_pattern subNext_afterReg => subNext k
scoped grind_pattern cbDone_decided => cbDone k j e
scoped grind_pattern cbDone_regPos => cbDone k j e
scoped grind_pattern cbDone_fresh => cbDone k j e
scoped grind_pattern cbDone_afterReg => cbDone k j e
attribute [scoped grind →] cbDone_cell
end Auto

/-- closes `Inv… w s'` for the state `s'` after a step: one goal per clause, the step's effect and the accessors of the awaited
    words unfolded in the goal only; the invariants of the state before the step stay folded among the hypotheses, and `grind`
    draws their clauses through the `Auto…` blocks that are open
    (its solvers for rings, ordered fields, AC and orders are off: the clauses need linear integer arithmetic only) -/
macro "inv_auto" : tactic =>
  `(tactic| (constructor <;> simp only [State.word, State.setWord, upd, doDrop, doLdtor, doRet, doPublish, doFdtor, doSubmit,
      doCurrent, doTdtor, doResume, doTstore, doMsub] <;> grind -ring -linarith -ac -order))

end Yaclib.Coro
