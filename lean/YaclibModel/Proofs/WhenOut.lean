/- Output invariants of the combinator model: the output promise is set at most once, by the elected winner or by the
   destructor. -/
import YaclibModel.Proofs.WhenWord

namespace Yaclib.When

/-- what the strategies' word invariants give to the output invariant: an RMW that elects a winner finds none elected -/
structure WinFree (w : Workload) (s : State) : Prop where
  f : w.strat.usesFlag = true → s.flag = false → s.win = none
  g : w.strat = .anyFF → s.st3 ≠ .value → s.win = none
  l : w.strat = .anyLF → ∀ i, s.pc i = .rmw → s.lf % 2 = 0 → s.win = none

structure InvO (w : Workload) (s : State) : Prop where
  pvalid : s.pValid = true ↔ s.outSet = []
  len : s.outSet.length ≤ 1
  win_pc : ∀ i o, s.pc i = .setOut o → s.win = some i ∧ s.pValid = true
  win_set : ∀ k, s.win = some k → isSetOut (s.pc k) = true ∨ s.pValid = false
  dtorset : ∀ i, s.pc i = .dtorSet → s.pValid = true
  dt_done_out : ∀ i, s.dt = some i → s.pc i = .done → s.pValid = false
  none_win : w.strat.noneKind = true → s.win = none
  /-- the promise was consumed either by an elected winner or by the destructor of the last consumption -/
  valid_or : s.pValid = false → s.win ≠ none ∨ (s.dt ≠ none ∧ ∀ i, s.dt = some i → s.pc i = .done)

theorem invo_init (w : Workload) : InvO w (init w) := by
  constructor <;> simp [init]

/- patterns for the clauses of `InvO` -/
namespace Auto
attribute [scoped grind →] InvO.pvalid InvO.len InvO.none_win InvO.valid_or
attribute [scoped grind! .] InvO.win_pc InvO.win_set InvO.dtorset InvO.dt_done_out
attribute [scoped grind] isSetOut Strat.noneKind
attribute [scoped grind =] lose_cases
end Auto
open Auto

variable {w : Workload} {s : State}

/-- a consumption that has just been entered, or has just released its input, holds its reference and has not decided yet -/
theorem consumeStart_facts (st : Strat) (r : Res) :
    holding (consumeStart st r) = true ∧ holding (afterRetire st r) = true ∧
    isSetOut (consumeStart st r) = false ∧ isSetOut (afterRetire st r) = false ∧
    consumeStart st r ≠ .boom ∧ afterRetire st r ≠ .boom := by
  have := consumeStart_cases st r; have := afterRetire_cases st r; grind

/-- while some consumption holds a reference, nobody has dropped the last one -/
theorem InvC.dt_none (hC : InvC w s) {i : Nat} (hh : holding (s.pc i) = true) (hn : i < w.n) : s.dt = none := by
  have h1 := hC.count
  have := cnt_pos (p := fun j => holding (s.pc j)) hn hh
  have := hC.dt_cnt
  unfold cntH at h1
  grind

/-- as long as some consumption holds a reference and nobody is elected, the output promise is untouched -/
theorem outSet_nil (hC : InvC w s) (hO : InvO w s) {i : Nat} (hh : holding (s.pc i) = true) (hne : s.pc i ≠ .unreg)
    (hw : s.win = none) : s.outSet = [] := by
  have := hC.dt_none hh (hC.idx hne)
  grind

theorem Strat.isAllVec_cases {st : Strat} (h : st.isAllVec = true) : st = .allVec true ∨ st.noneKind = true := by
  cases st with
  | allVec b => cases b <;> simp [Strat.noneKind]
  | _ => simp [Strat.isAllVec] at h

/-- a step of a consumption that has not been elected yet and keeps its reference: either nothing the invariant speaks of
    changes, or it is elected, nobody having been (the side conditions are one hypothesis so that a single call discharges
    them from the context of the step) -/
theorem InvO.pc_step (hi : InvO w s) {i : Nat} {p : IPc} {win : Option Nat}
    (h : s.dt = none ∧ isSetOut (s.pc i) = false ∧ holding p = true ∧
      ((isSetOut p = false ∧ win = s.win) ∨ (isSetOut p = true ∧ win = some i ∧ s.win = none ∧ w.strat.noneKind = false)))
    (reg busy consumed released flag st3 lf errBy rmwDone rmwOrder) :
    InvO w { s with pc := upd s.pc i p, win, reg, busy, consumed, released, flag, st3, lf, errBy, rmwDone, rmwOrder } := by
  inv_auto

theorem InvO.dec_step (hi : InvO w s) (hdt : s.dt = none) {i : Nat} {store : Bool} (hp : s.pc i = .dec store) :
    InvO w (doDec w s i store) := by
  have h1 := dtorStart_cases w.strat s.pValid
  unfold doDec; split
  · rcases h1 with h1 | h1 | h1 <;> simp only [h1.1] <;> inv_auto
  · inv_auto

theorem InvO.dtorRel_step (hi : InvO w s) {i j : Nat} (hdt : s.dt = some i) (hv : w.strat.isAllVec = true)
    (hp : s.pc i = .dtorRel j) : InvO w (doDtorRel w s i j) := by
  have hk := Strat.isAllVec_cases hv
  unfold doDtorRel; split <;> (try split) <;> (try split) <;> inv_auto

theorem invo_step {w s l s'} (hC : InvC w s) (hW : WinFree w s) (hi : InvO w s) (hs : Step w s l s') : InvO w s' := by
  have hdt := @InvC.dt_none w s hC
  have hword := hC.word
  have hun := hC.unreg
  have hidx := @InvC.idx w s hC
  have hnk := @Strat.noneKind_cases w.strat
  have hdtor_dt := hC.dtor_dt
  have hrel := hC.dtorRel
  clear hC
  cases hs with
  | regSet i okb hc hb hr hn =>
      have := consumeStart_facts w.strat (w.inp i)
      cases okb <;> exact hi.pc_step (by grind) ..
  | fire i hc hp =>
      have := consumeStart_facts w.strat (w.inp i)
      exact hi.pc_step (by grind) ..
  | retire i hc hp =>
      have := consumeStart_facts w.strat (w.inp i)
      exact hi.pc_step (by grind) ..
  | loadFlag i b hc hp hs hb => cases b <;> exact hi.pc_step (by grind) ..
  | xchgFlag i hc hp hs =>
      have := hW.f hs
      unfold doXchgFlag; split <;> exact hi.pc_step (by grind) ..
  | load3 i x hc hp hs hx =>
      unfold doLoad3; split <;> exact hi.pc_step (by grind) ..
  | xchg3 i hc hp hs hv =>
      have := hW.g hs
      unfold doXchg3; split <;> exact hi.pc_step (by grind) ..
  | cas3 i hc hp hs hv =>
      unfold doCas3; split <;> exact hi.pc_step (by grind) ..
  | loadLf i d hc hp hs hd => cases d <;> exact hi.pc_step (by grind) ..
  | xchgLf i hc hp hs hv =>
      have := hW.l hs i hp
      unfold doXchgLf; split <;> exact hi.pc_step (by grind) ..
  | fsubLf i hc hp hs hv =>
      have := hW.l hs i hp
      unfold doFsubLf; split <;> exact hi.pc_step (by grind) ..
  | setOut i o hc hp => inv_auto
  | dec i store hc hp => exact hi.dec_step (by grind) hp
  | dtorRel i j hc hp => exact hi.dtorRel_step (by grind) (hrel i j hp).2.2 hp
  | dtorSet i o hc hp ho => inv_auto
  | dtorThrow i hc hp ho => inv_auto
  | crash i hc hp => inv_auto

end Yaclib.When
