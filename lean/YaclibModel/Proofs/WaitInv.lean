/- C11: the invariant holds in every reachable state -/
import YaclibModel.Proofs.WaitP
import YaclibModel.Proofs.WaitS
import YaclibModel.Proofs.WaitT
import YaclibModel.Proofs.WaitF

namespace Yaclib.Wait
variable {w : Workload} {s s' : State} {l : Label}

theorem loadOk_ne_empty {f : Fut} {x : Word} (hx : loadOk f x) (hne : x ≠ .empty) : f.word ≠ .empty := by
  rcases hx with h | h
  · rw [← h]; exact hne
  · rw [h.1]; simp

theorem loadOk_result {f : Fut} {x : Word} (hx : loadOk f x) (hr : x = .result) : f.word = .result := by
  rcases hx with h | h
  · rw [← h]; exact hr
  · exact h.1

theorem inv_step (hi : Inv w s) (hs : Step s l s') : Inv w s' := by
  cases hs with
  | wCall c rest h hc =>
      have hne : s.calls ≠ [] := by simp [hc]
      exact inv_begin hi c.lo c.hi c.timed false h (by simp [Call.hi]) (by rw [hi.calls_fi hne]; omega) (fun _ => rfl)
        (fun h => by cases h)
        (fun hwf => by rw [hi.hw]; exact hwf c (hi.calls_sub c (by simp [hc])))
  | wRegLoad i x h hx =>
      unfold doRegLoad
      by_cases hxe : x = .empty
      · simp only [hxe, ↓reduceIte]; exact inv_toRegCas hi i (Or.inl h)
      · simp only [hxe, ↓reduceIte]; exact inv_regNext hi i (Or.inl h) (loadOk_ne_empty hx hxe)
  | wRegCasOk i h hw => exact inv_wRegCasOk hi i h hw
  | wRegCasFail i h hw => exact inv_regNext hi i (Or.inr h) hw
  | wRegSpur i x h _ hx =>
      unfold doRegLoad
      by_cases hxe : x = .empty
      · simp only [hxe, ↓reduceIte]; exact inv_toRegCas hi i (Or.inr h)
      · simp only [hxe, ↓reduceIte]; exact inv_regNext hi i (Or.inr h) (loadOk_ne_empty hx hxe)
  | wSub1 h => exact inv_wSub1 hi h
  | wLock1 h hm => exact inv_wLock1 hi h hm
  | wSleep f h => exact inv_wSleep hi f h
  | wWake f h hm => exact inv_wWake hi f h hm
  | wTimeout h ht => exact inv_wTimeout hi h ht
  | wLockT h hm => exact inv_wLockT hi h hm
  | wRstLoad i x h hx =>
      have hal : s.alive = true := hi.alive_iff.mpr (by simp [h, WPc.inCall])
      unfold doRstLoad
      by_cases hxr : x = .result
      · simp only [hxr, ↓reduceIte]
        refine inv_rstNext hi i (Or.inl h) ?_
        intro hg
        have h1 := hi.g_inn hal i hg
        have h2 := loadOk_result hx hxr
        rw [h1] at h2; cases h2
      · simp only [hxr, ↓reduceIte]; exact inv_toRstCas hi i x h hx hxr
  | wRstCasOk i x h hw => exact inv_wRstCasOk hi i x h hw
  | wRstCasFail i x h hw =>
      have hal : s.alive = true := hi.alive_iff.mpr (by simp [h, WPc.inCall])
      refine inv_rstNext hi i (Or.inr ⟨x, h⟩) ?_
      intro hg
      have h1 := hi.g_inn hal i hg
      have h2 := hi.rstcas_ev i x h hg
      exact hw (by rw [h1, h2])
  | wSub2 h => exact inv_wSub2 hi h
  | wUnlockRet b h => exact inv_wUnlockRet hi b h
  | wRet b h => exact inv_wRet hi b h
  | wFin h hc hlt => exact inv_wFin hi h hc hlt
  | wAttLoad i x h hx =>
      unfold doAttLoad
      by_cases hxe : x = .empty
      · simp only [hxe, ↓reduceIte]; exact inv_toAttCas hi i h
      · simp only [hxe, ↓reduceIte]; exact inv_toAttFail hi i (Or.inl h) (loadOk_ne_empty hx hxe)
  | wAttCasOk i h hw => exact inv_wAttCasOk hi i h hw
  | wAttCasFail i h hw => exact inv_toAttFail hi i (Or.inr h) hw
  | wInvoke i h hw => exact inv_wDeliver hi i (Or.inl h) hw
  | wGot i h hw => exact inv_wDeliver hi i (Or.inr h) hw
  | pXchg i _ h hw => exact inv_pXchg hi i h hw
  | pSub i h => exact inv_pSub hi i h
  | pLock i h hm => exact inv_pLock hi i h hm
  | pUnlock i h => exact inv_pUnlock hi i h
  | pInvoke i h => exact inv_pInvoke hi i h

theorem inv_reachable (h : Reachable w s) : Inv w s := by
  induction h with
  | init => exact inv_init w
  | step _ hs ih => exact inv_step ih hs

end Yaclib.Wait
