/- WhenS (Model/WhenComposeShared.lean): the shape of observer 0 (the combinator's registration) and the frame lemma for the
   free steps of a Shared instance (other observers, fulfiller, executor jobs, Retire()). -/
import YaclibModel.Model.WhenComposeShared
import YaclibModel.Proofs.WhenCompose
import YaclibModel.Proofs.SharedInv

namespace Yaclib.WhenS
open Yaclib Yaclib.Shared

theorem cb0_kind : cb0.kind = .retire := rfl
theorem cb0_owner : cb0.owner = 0 := rfl
theorem cb0_eq (c : Cb) : c = cb0 ↔ c.owner = 0 ∧ c.seq = 0 ∧ c.kind = .retire := by
  cases c; simp [cb0]

/-- the combinator callback is installed and not entered yet: in the word's list or in the list the fulfiller walks -/
def inLists (s : Shared.State) : Prop := cb0 ∈ wordList s.word ∨ cb0 ∈ walkList s.fpc

/-- program counters observer 0 can have -/
def pcOk : OPc → Bool
  | .idle => true
  | .att c _ => decide (c = cb0)
  | .run c st => decide (c = cb0 ∧ st = .begin)
  | _ => false

/-- what observer 0 (program `[attach .retire]`) of an instance looks like; its callback never becomes an executor job -/
structure O0 (s : Shared.State) : Prop where
  shape : ((s.obs 0).todo = [.attach .retire] ∧ pcOk (s.obs 0).pc = true ∧ ((s.obs 0).pc = .idle → (s.obs 0).seq = 0)) ∨
          ((s.obs 0).todo = [] ∧ (s.obs 0).pc = .idle)
  jobs : cb0 ∉ s.jobs

theorem o0_init (W : Workload) (i : Nat) : O0 (Shared.init (wS W i)) := by
  constructor <;> simp [Shared.init, wS, pcOk]

macro "frame_auto" : tactic =>
  `(tactic| (refine ⟨?_, ?_, ?_, ?_⟩ <;> (try simp only [inLists] at *) <;> (try sh_unfold) <;>
      grind [cb0_kind, cb0_owner, = List.count_singleton, = wordList_list, = wordList_result,
        = walkList_walk, = walkList_start, = walkList_dec, = heldCb_att, = heldCb_run, List.mem_of_mem_erase]))

/-- a free step of an instance leaves observer 0 alone, does not turn the combinator callback into a job, does not install it,
    does not enter it -/
theorem free_frame {ws : Shared.Workload} {s s' : Shared.State} {l : Shared.Label} (hI : Shared.Inv ws s) (hJ : cb0 ∉ s.jobs)
    (hs : Shared.Step s l s') (hf : isFree l = true) :
    s'.obs 0 = s.obs 0 ∧ cb0 ∉ s'.jobs ∧ (inLists s' → inLists s) ∧
    (firedIds s').count cb0 = (firedIds s).count cb0 := by
  cases hs with
  | oLoad t op rest k x h ht hk hr hx =>
      simp only [isFree, decide_eq_true_eq, ne_eq] at hf
      cases x with
      | list l => frame_auto
      | result =>
          by_cases hke : k = .event
          · subst hke; frame_auto
          · simp only [doLoad, reload, failPath, hke, ↓reduceIte]; frame_auto
  -- the instance's invariant is needed in four places: only a callback of kind `exec` becomes a job …
  | fSubmit c rest d h =>
      have := hI.a.walk_kind c rest d .incd h
      frame_auto
  | oSubmit t c h =>
      have := hI.a.run_shape t c .incd h
      simp only [isFree, decide_eq_true_eq, ne_eq] at hf
      frame_auto
  -- … and a callback in the hands of observer `t ≠ 0` is owned by `t`, so it is not `cb0`
  | oEnter t c h hk =>
      have := hI.c.link1 t c (by rw [h]; rfl)
      simp only [isFree, decide_eq_true_eq, ne_eq] at hf
      frame_auto
  | oCasOk t c e h hw =>
      have := hI.c.link1 t c (by rw [h]; rfl)
      simp only [isFree, decide_eq_true_eq, ne_eq] at hf
      by_cases hke : c.kind = .event
      · simp only [doCasOk, hke, ↓reduceIte]; frame_auto
      · by_cases hkr : c.kind = .retire
        · simp only [doCasOk, hkr, ↓reduceIte, reduceCtorEq]; frame_auto
        · simp only [doCasOk, hke, hkr, ↓reduceIte]; frame_auto
  | oCasFail t c e x h hw hx =>
      simp only [isFree, decide_eq_true_eq, ne_eq] at hf
      cases x with
      | list l => frame_auto
      | result =>
          by_cases hke : c.kind = .event
          · simp only [reload, failPath, hke, ↓reduceIte]; frame_auto
          · simp only [reload, failPath, hke, ↓reduceIte]; frame_auto
  | oCasSpur t c e x h hw hx =>
      simp only [isFree, decide_eq_true_eq, ne_eq] at hf
      cases x with
      | list l => frame_auto
      | result =>
          by_cases hke : c.kind = .event
          · simp only [reload, failPath, hke, ↓reduceIte]; frame_auto
          · simp only [reload, failPath, hke, ↓reduceIte]; frame_auto
  | _ => (try simp only [isFree, decide_eq_true_eq, ne_eq] at hf) <;> frame_auto

end Yaclib.WhenS
