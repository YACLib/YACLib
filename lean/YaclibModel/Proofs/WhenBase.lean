/- Counting lemmas and small facts used by the invariants of the combinator model (Model/When.lean). -/
import YaclibModel.Model.When

namespace Yaclib.When

/-- number of `i < k` with `p i` -/
def cnt (p : Nat → Bool) : Nat → Nat
  | 0 => 0
  | k + 1 => cnt p k + (if p k then 1 else 0)

theorem cnt_le (p : Nat → Bool) (k : Nat) : cnt p k ≤ k := by
  induction k with
  | zero => simp [cnt]
  | succ k ih => simp only [cnt]; split <;> omega

theorem cnt_congr {p q : Nat → Bool} {k : Nat} (h : ∀ i, i < k → p i = q i) : cnt p k = cnt q k := by
  induction k with
  | zero => rfl
  | succ k ih =>
      simp only [cnt]
      rw [ih (fun i hi => h i (by omega)), h k (by omega)]

theorem cnt_zero {p : Nat → Bool} {k : Nat} (h : cnt p k = 0) : ∀ i, i < k → p i = false := by
  induction k with
  | zero => intro i hi; omega
  | succ k ih =>
      simp only [cnt] at h
      intro i hi
      by_cases hk : i = k
      · subst hk; cases hp : p i <;> simp [hp] at h ⊢
      · exact ih (by omega) i (by omega)

theorem cnt_all_false {p : Nat → Bool} {k : Nat} (h : ∀ i, i < k → p i = false) : cnt p k = 0 := by
  induction k with
  | zero => rfl
  | succ k ih => simp only [cnt]; rw [ih (fun i hi => h i (by omega)), h k (by omega)]; simp

theorem cnt_full {p : Nat → Bool} {k : Nat} (h : cnt p k = k) : ∀ i, i < k → p i = true := by
  induction k with
  | zero => intro i hi; omega
  | succ k ih =>
      simp only [cnt] at h
      have hle := cnt_le p k
      intro i hi
      by_cases hk : i = k
      · subst hk; cases hp : p i <;> simp [hp] at h ⊢; omega
      · have : cnt p k = k := by split at h <;> omega
        exact ih this i (by omega)

/-- changing the predicate at one index below the bound -/
theorem cnt_upd (p : Nat → Bool) (i : Nat) (b : Bool) (k : Nat) (hi : i < k) :
    cnt (fun j => if j = i then b else p j) k + (if p i then 1 else 0) = cnt p k + (if b then 1 else 0) := by
  induction k with
  | zero => omega
  | succ k ih =>
      simp only [cnt]
      by_cases hk : i = k
      · subst hk
        have : cnt (fun j => if j = i then b else p j) i = cnt p i :=
          cnt_congr (fun j hj => by simp [Nat.ne_of_lt hj])
        simp [this]; omega
      · have := ih (by omega)
        have hne : ¬ k = i := fun h => hk h.symm
        simp [hne]; omega

/-- … and at or above the bound -/
theorem cnt_upd_ge (p : Nat → Bool) (i : Nat) (b : Bool) (k : Nat) (hi : k ≤ i) :
    cnt (fun j => if j = i then b else p j) k = cnt p k :=
  cnt_congr (fun j hj => by simp [show j ≠ i by omega])

theorem cnt_one_unique {p : Nat → Bool} {k i j : Nat} (h : cnt p k = 1) (hi : i < k) (hpi : p i = true)
    (hj : j < k) (hne : j ≠ i) : p j = false := by
  have h1 := cnt_upd p i false k hi
  simp [hpi, h] at h1
  have := cnt_zero h1 j hj
  simpa [hne] using this

theorem cnt_pos {p : Nat → Bool} {k i : Nat} (hi : i < k) (hpi : p i = true) : 0 < cnt p k := by
  have h1 := cnt_upd p i false k hi
  simp [hpi] at h1
  omega

theorem cnt_lt_of_false {p : Nat → Bool} {k i : Nat} (hi : i < k) (hpi : p i = false) : cnt p k < k := by
  have h1 := cnt_upd p i true k hi
  rw [hpi] at h1
  have h2 : cnt (fun j => if j = i then true else p j) k = cnt p k + 1 := by simpa using h1
  have := cnt_le (fun j => if j = i then true else p j) k
  omega

/-- number of inputs below `n` whose consumption still holds its combinator reference -/
def cntH (pc : Nat → IPc) (n : Nat) : Nat := cnt (fun j => holding (pc j)) n

theorem upd_apply {α : Type} (f : Nat → α) (i : Nat) (x : α) (j : Nat) : upd f i x j = if j = i then x else f j := rfl

theorem cntH_upd (pc : Nat → IPc) (i : Nat) (x : IPc) (n : Nat) (hi : i < n) :
    cntH (upd pc i x) n + (if holding (pc i) = true then 1 else 0) = cntH pc n + (if holding x = true then 1 else 0) := by
  have := cnt_upd (fun j => holding (pc j)) i (holding x) n hi
  have h2 : cntH (upd pc i x) n = cnt (fun j => if j = i then holding x else holding (pc j)) n := by
    unfold cntH
    apply cnt_congr
    intro j _
    simp only [upd]
    split <;> rfl
  rw [h2]
  unfold cntH
  simpa using this

@[simp] theorem upd_same {α : Type} (f : Nat → α) (i : Nat) (x : α) : upd f i x i = x := by simp [upd]
theorem upd_other {α : Type} (f : Nat → α) (i j : Nat) (x : α) (h : j ≠ i) : upd f i x j = f j := by simp [upd, h]

/-- not yet entered or waiting for its release -/
def beforeRetire : IPc → Bool
  | .unreg => true
  | .pending => true
  | .retire => true
  | .load => false
  | .rmw => false
  | .setOut _ => false
  | .dec _ => false
  | .dtorRel _ => false
  | .dtorSet => false
  | .boom => false
  | .dboom => false
  | .done => false

/-- has work to do on its own -/
def active : IPc → Bool
  | .unreg => false
  | .pending => false
  | .retire => true
  | .load => true
  | .rmw => true
  | .setOut _ => true
  | .dec _ => true
  | .dtorRel _ => true
  | .dtorSet => true
  | .boom => true
  | .dboom => true
  | .done => false

def isSetOut : IPc → Bool
  | .unreg => false
  | .pending => false
  | .retire => false
  | .load => false
  | .rmw => false
  | .setOut _ => true
  | .dec _ => false
  | .dtorRel _ => false
  | .dtorSet => false
  | .boom => false
  | .dboom => false
  | .done => false

theorem done_of_not_holding {p : IPc} (h1 : holding p = false) (h2 : inDtor p = false) : p = .done := by
  cases p <;> simp_all [holding, inDtor]

def Strat.isAllVec : Strat → Bool
  | .allVec _ => true
  | .allTuple _ => false
  | .join _ => false
  | .anyNone => false
  | .anyFF => false
  | .anyLF => false

/-- strategies without any atomic of their own: everything happens in the destructor -/
def Strat.noneKind : Strat → Bool
  | .allVec false | .allTuple false | .join false => true
  | _ => false

/-- WhenAll / Join with FirstFail: only failing inputs touch the flag -/
def Strat.allFF : Strat → Bool
  | .allVec true | .allTuple true | .join true => true
  | _ => false

def Strat.hasWord (st : Strat) : Bool := st.usesFlag || st = .anyFF || st = .anyLF

theorem afterRetire_cases (st : Strat) (r : Res) :
    ((afterRetire st r = .dec false ∨ afterRetire st r = .dec true) ∧ (st.hasWord = true → st.allFF = true ∧ ok r = true)) ∨
    (afterRetire st r = .load ∧ st.hasWord = true ∧ (st.allFF = true → ok r = false)) := by
  cases st with
  | allVec b => cases b <;> simp [afterRetire, Strat.hasWord, Strat.usesFlag, Strat.allFF] <;> split <;> simp_all
  | allTuple b => cases b <;> simp [afterRetire, Strat.hasWord, Strat.usesFlag, Strat.allFF] <;> split <;> simp_all
  | join b => cases b <;> simp [afterRetire, Strat.hasWord, Strat.usesFlag, Strat.allFF] <;> split <;> simp_all
  | anyNone => simp [afterRetire, Strat.hasWord, Strat.usesFlag, Strat.allFF]
  | anyFF => simp [afterRetire, Strat.hasWord, Strat.usesFlag, Strat.allFF]
  | anyLF => simp [afterRetire, Strat.hasWord, Strat.usesFlag, Strat.allFF]

theorem consumeStart_cases (st : Strat) (r : Res) :
    (st.managed = true ∧ consumeStart st r = .retire) ∨ (st.managed = false ∧ consumeStart st r = afterRetire st r) := by
  unfold consumeStart
  cases st.managed <;> simp

theorem lose_cases (st : Strat) : lose st = .dec false := rfl

theorem dtorStart_cases (st : Strat) (pv : Bool) :
    (dtorStart st pv = some (.dtorRel 0) ∧ st.isAllVec = true) ∨
    (dtorStart st pv = some .dtorSet ∧ st.isAllVec = false ∧ (st.noneKind = true ∨ pv = true)) ∨
    (dtorStart st pv = none ∧ st.isAllVec = false ∧ st.noneKind = false ∧ pv = false) := by
  cases st with
  | allVec b => simp [dtorStart, Strat.isAllVec]
  | allTuple b => cases b <;> cases pv <;> simp [dtorStart, Strat.isAllVec, Strat.noneKind]
  | join b => cases b <;> cases pv <;> simp [dtorStart, Strat.isAllVec, Strat.noneKind]
  | anyNone => cases pv <;> simp [dtorStart, Strat.isAllVec, Strat.noneKind]
  | anyFF => cases pv <;> simp [dtorStart, Strat.isAllVec, Strat.noneKind]
  | anyLF => cases pv <;> simp [dtorStart, Strat.isAllVec, Strat.noneKind]

theorem cnt_updb (f : Nat → Bool) (i : Nat) (b : Bool) (n : Nat) (hi : i < n) :
    cnt (upd f i b) n + (if f i = true then 1 else 0) = cnt f n + (if b = true then 1 else 0) := by
  have := cnt_upd f i b n hi
  have h2 : cnt (upd f i b) n = cnt (fun j => if j = i then b else f j) n := cnt_congr (fun j _ => rfl)
  rw [h2]; simpa using this

theorem Strat.noneKind_cases {st : Strat} (h : st.noneKind = true) :
    st.hasWord = false ∧ st.usesFlag = false ∧ st ≠ .anyFF ∧ st ≠ .anyLF ∧ st.allFF = false := by
  cases st with
  | allVec b => cases b <;> simp_all [Strat.noneKind, Strat.usesFlag, Strat.hasWord, Strat.allFF]
  | allTuple b => cases b <;> simp_all [Strat.noneKind, Strat.usesFlag, Strat.hasWord, Strat.allFF]
  | join b => cases b <;> simp_all [Strat.noneKind, Strat.usesFlag, Strat.hasWord, Strat.allFF]
  | anyNone => simp_all [Strat.noneKind]
  | anyFF => simp_all [Strat.noneKind]
  | anyLF => simp_all [Strat.noneKind]

theorem head?_snoc {α : Type} (l : List α) (a : α) : (l ++ [a]).head? = if l = [] then some a else l.head? := by
  cases l <;> simp

theorem find?_snoc {α : Type} (p : α → Bool) (l : List α) (a : α) :
    (l ++ [a]).find? p = if (l.find? p).isSome then l.find? p else (if p a then some a else none) := by
  rw [List.find?_append]
  cases h : l.find? p <;> simp [List.find?_cons]
  split <;> simp_all

theorem getLast?_snoc {α : Type} (l : List α) (a : α) : (l ++ [a]).getLast? = some a := by simp

theorem find?_none_of_empty {α : Type} (p : α → Bool) : ([] : List α).find? p = none := rfl

theorem St3.le_cases {x y : St3} (h : x.le y = true) :
    x = .empty ∨ (x = .error ∧ y ≠ .empty) ∨ (x = .value ∧ y = .value) := by
  cases x <;> cases y <;> simp_all [St3.le]

theorem two64_pos : 0 < two64 := by decide

/-- `fetch_sub(2)` keeps an odd counter odd (the wrap-around after `exchange(1)`: 1 - 2 = 2^64 - 1) … -/
theorem subWrap_odd {x : Nat} (hx : x < two64) (ho : x % 2 = 1) : subWrap x % 2 = 1 ∧ subWrap x < two64 := by
  unfold subWrap two64 at *
  omega

/-- … and is an ordinary subtraction on an even counter that is at least 2 -/
theorem subWrap_even {x : Nat} (hx : x < two64) (h2 : 2 ≤ x) : subWrap x = x - 2 := by
  unfold subWrap two64 at *
  omega

/-- the same statement on the machine type -/
theorem subWrap_eq_bitvec (x : Nat) (_hx : x < two64) : (BitVec.ofNat 64 x - 2#64).toNat = subWrap x := by
  unfold subWrap two64 at *
  simp [BitVec.toNat_sub]
  omega

end Yaclib.When
