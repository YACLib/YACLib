/- the multi-coroutine system: basic lemmas about views and about which one-coroutine steps touch the cells -/
import YaclibModel.Model.CoroMulti
import YaclibModel.Proofs.CoroD

namespace Yaclib.CoroMulti
open Yaclib.Coro

theorem getD_map_range {α} (n j : Nat) (f : Nat → α) (d : α) :
    ((List.range n).map f).getD j d = if j < n then f j else d := by
  simp only [List.getD_eq_getElem?_getD, List.getElem?_map, List.getElem?_range]
  split <;> rename_i h
  · simp [List.getElem?_range h]
  · rw [List.getElem?_eq_none (by simp; omega)]; simp

theorem proj_cell (W : MWorkload) (i j : Nat) : (W.proj i).cell j = W.cellW i j := by
  simp only [Workload.cell, MWorkload.proj, getD_map_range]
  split
  · rfl
  · rename_i h
    have hg : W.gcell j = {} := by
      simp only [MWorkload.gcell, List.getD_eq_getElem?_getD]
      rw [List.getElem?_eq_none (by omega)]; rfl
    simp [MWorkload.cellW, hg]

theorem proj_w_prog (W : MWorkload) (i : Nat) : (W.proj i).prog = (W.co i).prog := rfl

theorem proj_init (W : MWorkload) (i : Nat) : (minit W).proj W i = init (W.proj i) := by
  simp only [MState.proj, minit, init]
  congr 1
  funext j
  simp only [viewCell, proj_cell]
  split <;> simp [initCell, viewWord, mineOf, hasOther, MWorkload.cellW]

theorem proj_cells (W : MWorkload) (S : MState) (i j : Nat) : (S.proj W i).cells j = viewCell W i j (S.cells j) := rfl

/-- two states of the system with the same private part of coroutine k and the same view of the cells project alike -/
theorem proj_congr {W : MWorkload} {S S' : MState} {k : Nat} (hc : S'.cor k = S.cor k)
    (hv : ∀ j, viewCell W k j (S'.cells j) = viewCell W k j (S.cells j)) : S'.proj W k = S.proj W k := by
  simp only [MState.proj, hc]
  congr 1
  funext j; exact hv j

theorem proj_of_cells {W : MWorkload} {S' : MState} {k : Nat} {s' : State} (hc : S'.cor k = s')
    (hv : ∀ j, viewCell W k j (S'.cells j) = s'.cells j) : S'.proj W k = s' := by
  simp only [MState.proj, hc]
  have : (fun j => viewCell W k j (S'.cells j)) = s'.cells := funext hv
  rw [this]

theorem mineOf_cons_self (i p : Nat) (l : List (Nat × Nat)) : mineOf i ((i, p) :: l) = p :: mineOf i l := by
  simp [mineOf]

theorem mineOf_cons_other {i k p : Nat} (l : List (Nat × Nat)) (h : k ≠ i) : mineOf i ((k, p) :: l) = mineOf i l := by
  simp [mineOf, h]

theorem hasOther_cons_self (i p : Nat) (l : List (Nat × Nat)) : hasOther i ((i, p) :: l) = hasOther i l := by
  simp [hasOther]

theorem hasOther_cons_other {i k p : Nat} (l : List (Nat × Nat)) (h : k ≠ i) : hasOther i ((k, p) :: l) = true := by
  simp [hasOther, h]

theorem mineOf_erase_other {i k p : Nat} (l : List (Nat × Nat)) (h : k ≠ i) : mineOf i (l.erase (k, p)) = mineOf i l := by
  induction l with
  | nil => rfl
  | cons c t ih =>
      by_cases hc : c = (k, p)
      · subst hc; simp [mineOf_cons_other t h]
      · rw [List.erase_cons_tail (by simpa using hc)]
        simp only [mineOf, List.filterMap_cons] at ih ⊢
        split <;> simp_all

theorem mineOf_erase_self (i p : Nat) (l : List (Nat × Nat)) : mineOf i (l.erase (i, p)) = (mineOf i l).erase p := by
  induction l with
  | nil => rfl
  | cons c t ih =>
      obtain ⟨c1, c2⟩ := c
      by_cases hc : (c1, c2) = (i, p)
      · cases hc; simp [mineOf_cons_self]
      · rw [List.erase_cons_tail (by simpa using hc)]
        by_cases h1 : c1 = i
        · subst h1
          have h2 : c2 ≠ p := by intro h; exact hc (by rw [h])
          rw [mineOf_cons_self, mineOf_cons_self, ih, List.erase_cons_tail (by simpa using h2)]
        · rw [mineOf_cons_other _ h1, mineOf_cons_other _ h1, ih]

/-! which steps of the one-coroutine model change the cells -/

def cellLabel : Label → Bool
  | .cas _ .ok | .fire _ _ | .tstore | .pXchg _ | .envPush _ | .envSwap _ _ => true
  | _ => false

theorem afterReg_cells (s : State) (op : Op) : (afterReg s op).cells = s.cells := by
  simp only [afterReg]; split <;> (try split) <;> rfl
theorem regFrom_cells (s : State) (op : Op) (p : Nat) : (regFrom s op p).cells = s.cells := by
  simp only [regFrom]; split
  · rfl
  · exact afterReg_cells s op
theorem regFail_cells (s : State) (op : Op) (p : Nat) : (regFail s op p).cells = s.cells := by
  simp only [regFail]; rw [regFrom_cells]
theorem doStart_cells (s : State) (op : Op) : (doStart s op).cells = s.cells := by
  simp only [doStart]; split <;> (try rw [regFrom_cells]) <;> rfl

theorem step_cells_same {s : State} {l : Label} {s' : State} (hs : Step s l s') (hl : cellLabel l = false) :
    s'.cells = s.cells := by
  cases hs with
  | pXchg j l f hw hl' => simp [cellLabel] at hl
  | envPush j l f hw hu => simp [cellLabel] at hl
  | envSwap j e hu => simp [cellLabel] at hl
  | fire op rest j p walk ht hw hp => simp [cellLabel] at hl
  | casOk op rest p j l f h ht hj hw hu => simp [cellLabel] at hl
  | tstore op rest j h ht hj => simp [cellLabel] at hl
  | exCall e h => rfl
  | exDrop e h => rfl
  | start op rest h ht => exact doStart_cells s op
  | rdLoad op rest j x h ht hj hx => rfl
  | ready x h => simp only [doReady]; split <;> rfl
  | mready v h => simp only [doMReady]; split <;> rfl
  | regLoad op rest p j x h ht hj hx => simp only [doRegLoad]; split; rfl; exact regFail_cells s op p
  | casRetry op rest p j h ht hj hw hu => rfl
  | casFail op rest p j h ht hj hw => exact regFail_cells s op p
  | msub op rest h ht => rfl
  | mload v h hv => rfl
  | msuspend op rest h ht => simp only [doMsuspend]; split <;> rfl
  | submit e h => rfl
  | resume op rest c h ht => rfl
  | current op rest h ht => rfl
  | tdtor j h hl' hr => rfl
  | ret h ht => rfl
  | ldtor h hl' => rfl
  | publish r h hr hl' => rfl
  | fdtor h hl' => rfl

theorem gcellsAfter_same (S : MState) (i : Nat) {l : Label} (hl : cellLabel l = false) : gcellsAfter S i l = S.cells := by
  cases l <;> simp_all [cellLabel, gcellsAfter]
  rename_i p o; cases o <;> simp_all [cellLabel]

end Yaclib.CoroMulti
