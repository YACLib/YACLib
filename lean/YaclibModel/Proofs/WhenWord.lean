/- Invariants about the strategies' own atomics: who did its RMW, in which order, who won. -/
import YaclibModel.Proofs.When

namespace Yaclib.When

/-- RMW ghosts, for every strategy -/
structure InvR (w : Workload) (s : State) : Prop where
  done_past : ∀ i, s.rmwDone i = true → past (s.pc i) = true
  order_mem : ∀ i, i ∈ s.rmwOrder ↔ s.rmwDone i = true
  win_done : ∀ k, s.win = some k → s.rmwDone k = true
  err_done : ∀ e, s.errBy = some e → s.rmwDone e = true
  /-- All / AllTuple / Join with FirstFail: only failing inputs touch the flag -/
  done_fail : w.strat.allFF = true → ∀ i, s.rmwDone i = true → ok (w.inp i) = false

/-- strategies with the `_done` flag: All / AllTuple / Join with FirstFail, Any<None> -/
structure InvF (w : Workload) (s : State) : Prop where
  flag_win : s.flag = true ↔ s.win ≠ none
  flag_empty : s.flag = false ↔ s.rmwOrder = []
  /-- the winner is the first consumption to exchange the flag -/
  flag_head : s.win = s.rmwOrder.head?
  /-- a failing consumption (any consumption for Any<None>) that is past its decision has seen or set the flag -/
  flag_past : ∀ i, past (s.pc i) = true → (ok (w.inp i) = false ∨ w.strat = .anyNone) → s.flag = true

/-- Any<FirstFail>: the three-state word, the saved first failure -/
structure InvG (w : Workload) (s : State) : Prop where
  s3_val : s.st3 = .value ↔ s.win ≠ none
  s3_empty : s.st3 = .empty ↔ s.rmwOrder = []
  /-- the winner is the first value to exchange the word -/
  s3_win : s.win = s.rmwOrder.find? (fun i => ok (w.inp i))
  /-- the saved failure belongs to the very first RMW on the word -/
  s3_err : ∀ e, s.errBy = some e →
    s.rmwOrder.head? = some e ∧ ok (w.inp e) = false ∧ (s.pc e = .dec true ∨ s.saved = some (w.inp e))
  s3_err2 : s.st3 = .error → s.errBy ≠ none
  s3_past : ∀ i, past (s.pc i) = true → s.st3 ≠ .empty
  s3_dec : ∀ i, s.pc i = .dec true → s.errBy = some i
  /-- a value that is past its decision has seen or written `kValue` -/
  s3_past_val : ∀ i, past (s.pc i) = true → ok (w.inp i) = true → s.st3 = .value

theorem invg_init (w : Workload) : InvG w (init w) := by
  constructor <;> simp [init, past]

/-- Any<LastFail>: the packed counter -/
structure InvL (w : Workload) (s : State) : Prop where
  lf_lt : s.lf < two64
  /-- no value has exchanged yet: the counter is twice the number of inputs that have not subtracted yet -/
  lf_even : s.lf % 2 = 0 →
    s.lf = 2 * (w.n - cnt s.rmwDone w.n) ∧ s.rmwOrder.find? (fun i => ok (w.inp i)) = none
  /-- a value has exchanged: the first one to do so won -/
  lf_odd : s.lf % 2 = 1 → s.win ≠ none ∧ s.win = s.rmwOrder.find? (fun i => ok (w.inp i))
  /-- while even, somebody won iff the counter reached zero, and it was the last one to subtract -/
  lf_win0 : s.lf % 2 = 0 → ((s.win ≠ none ↔ s.lf = 0) ∧ ∀ k, s.win = some k → s.rmwOrder.getLast? = some k)
  lf_past : ∀ i, past (s.pc i) = true → s.rmwDone i = true ∨ s.lf % 2 = 1

theorem invl_init (w : Workload) (hn : 2 * w.n < two64) (hn0 : w.n ≠ 0) : InvL w (init w) := by
  have h0 : cnt (fun _ => false) w.n = 0 := cnt_all_false (fun _ _ => rfl)
  constructor <;> simp [init, past, Nat.mod_eq_of_lt hn, h0]
  · exact hn
  · omega

theorem invr_init (w : Workload) : InvR w (init w) := by
  constructor <;> simp [init]

theorem invf_init (w : Workload) : InvF w (init w) := by
  constructor <;> simp [init, past]

/-- a consumption gets past its decision without touching the word only under FirstFail, with a value -/
theorem past_afterRetire {st : Strat} {r : Res} (h : past (afterRetire st r) = true) (hw : st.hasWord = true) :
    st.allFF = true ∧ ok r = true := by
  have := afterRetire_cases st r; grind [past]

theorem past_consumeStart {st : Strat} {r : Res} (h : past (consumeStart st r) = true) (hw : st.hasWord = true) :
    st.allFF = true ∧ ok r = true := by
  have := afterRetire_cases st r; have := consumeStart_cases st r; grind [past]

theorem past_dtorStart {st : Strat} {pv : Bool} {p : IPc} (h : dtorStart st pv = some p) : past p = true ∧ p ≠ .dec true := by
  have := dtorStart_cases st pv; grind [past]

/-- a consumption at its RMW has not done it yet: doing it adds one to the number of those done, which was below `n` -/
theorem InvR.rmw_cnt {w s i} (hR : InvR w s) (hp : s.pc i = .rmw) (hn : i < w.n) :
    s.rmwDone i = false ∧ cnt (upd s.rmwDone i true) w.n = cnt s.rmwDone w.n + 1 ∧ cnt s.rmwDone w.n < w.n := by
  have hnd : s.rmwDone i = false := by
    cases h : s.rmwDone i with
    | false => rfl
    | true => have := hR.done_past i h; rw [hp] at this; simp [past] at this
  have hcnt := cnt_updb s.rmwDone i true w.n hn
  rw [hnd] at hcnt
  exact ⟨hnd, by simpa using hcnt, cnt_lt_of_false hn hnd⟩

/- patterns for the word invariants' clauses and the lemmas their preservation needs: a clause about one input is
   instantiated where the field it constrains occurs together with that input -/
namespace Auto
attribute [scoped grind →] InvF.flag_win InvF.flag_empty InvF.flag_head InvG.s3_val InvG.s3_empty InvG.s3_win InvG.s3_err2
  InvL.lf_lt InvL.lf_even InvL.lf_odd InvL.lf_win0
scoped grind_pattern InvR.done_past => InvR w s, s.rmwDone i
scoped grind_pattern InvR.order_mem => InvR w s, i ∈ s.rmwOrder
scoped grind_pattern InvR.win_done => InvR w s, s.win, s.rmwDone k
scoped grind_pattern InvR.err_done => InvR w s, s.errBy, s.rmwDone e
scoped grind_pattern InvR.done_fail => InvR w s, s.rmwDone i, ok (w.inp i)
scoped grind_pattern InvF.flag_past => InvF w s, s.flag, s.pc i
scoped grind_pattern InvG.s3_err => InvG w s, s.errBy, s.pc e
scoped grind_pattern InvG.s3_past => InvG w s, s.st3, s.pc i
scoped grind_pattern InvG.s3_dec => InvG w s, s.pc i, IPc.dec true
scoped grind_pattern InvG.s3_past_val => InvG w s, s.st3, s.pc i
scoped grind_pattern InvL.lf_past => InvL w s, s.lf, s.pc i
attribute [scoped grind] past Strat.hasWord Strat.allFF Strat.usesFlag
attribute [scoped grind →] past_afterRetire past_consumeStart past_dtorStart
attribute [scoped grind =] head?_snoc find?_snoc getLast?_snoc List.append_eq_nil_iff
end Auto
open Auto

theorem invr_step {w s l s'} (hC : InvC w s) (hi : InvR w s) (hs : Step w s l s') : InvR w s' := by
  cases hs with
  | regSet i okb hc hb hr hn =>
      have hu : s.pc i = .unreg := (hC.unreg i).mpr (Nat.le_of_eq hr)
      cases okb <;> inv_auto
  | fire i hc hp => inv_auto
  | retire i hc hp => inv_auto
  | loadFlag i b hc hp hs hb => cases b <;> inv_auto
  | xchgFlag i hc hp hs =>
      have hwd := hC.word i (.inr hp)
      unfold doXchgFlag; split <;> inv_auto
  | setOut i o hc hp => inv_auto
  | load3 i x hc hp hs hx => unfold doLoad3; split <;> inv_auto
  | xchg3 i hc hp hs hv => unfold doXchg3; split <;> inv_auto
  | cas3 i hc hp hs hv => unfold doCas3; split <;> inv_auto
  | loadLf i d hc hp hs hd => cases d <;> inv_auto
  | xchgLf i hc hp hs hv => unfold doXchgLf; split <;> inv_auto
  | fsubLf i hc hp hs hv => unfold doFsubLf; split <;> inv_auto
  | dec i store hc hp =>
      unfold doDec; split <;> (try split) <;> inv_auto
  | dtorRel i j hc hp =>
      unfold doDtorRel; split <;> (try split) <;> (try split) <;> inv_auto
  | dtorSet i o hc hp ho => inv_auto
  | dtorThrow i hc hp ho => inv_auto
  | crash i hc hp => inv_auto

theorem invf_step {w s l s'} (hst : w.strat.usesFlag = true) (hC : InvC w s) (hi : InvF w s) (hs : Step w s l s') :
    InvF w s' := by
  cases hs with
  | regSet i okb hc hb hr hn => cases okb <;> inv_auto
  | fire i hc hp => inv_auto
  | retire i hc hp => inv_auto
  | loadFlag i b hc hp hs hb => cases b <;> inv_auto
  | xchgFlag i hc hp hs => unfold doXchgFlag; split <;> inv_auto
  | setOut i o hc hp => inv_auto
  | load3 i x hc hp hs hx => simp [hs, Strat.usesFlag] at hst
  | xchg3 i hc hp hs hv => simp [hs, Strat.usesFlag] at hst
  | cas3 i hc hp hs hv => simp [hs, Strat.usesFlag] at hst
  | loadLf i d hc hp hs hd => simp [hs, Strat.usesFlag] at hst
  | xchgLf i hc hp hs hv => simp [hs, Strat.usesFlag] at hst
  | fsubLf i hc hp hs hv => simp [hs, Strat.usesFlag] at hst
  | dec i store hc hp =>
      unfold doDec; split <;> (try split) <;> inv_auto
  | dtorRel i j hc hp =>
      unfold doDtorRel; split <;> (try split) <;> (try split) <;> inv_auto
  | dtorSet i o hc hp ho => inv_auto
  | dtorThrow i hc hp ho => inv_auto
  | crash i hc hp => inv_auto

theorem invf_reachable {w s} (hst : w.strat.usesFlag = true) (h : Reachable w s) : InvF w s := by
  induction h with
  | init => exact invf_init w
  | step hr hs ih => exact invf_step hst (invc_reachable hr) ih hs

theorem invg_step {w s l s'} (hst : w.strat = .anyFF) (hC : InvC w s) (hi : InvG w s) (hs : Step w s l s') :
    InvG w s' := by
  have hcs : ∀ r, consumeStart w.strat r = .retire := by simp [hst, consumeStart, Strat.managed]
  have har : ∀ r, afterRetire w.strat r = .load := by simp [hst, afterRetire]
  cases hs with
  | regSet i okb hc hb hr hn =>
      have hu : s.pc i = .unreg := (hC.unreg i).mpr (Nat.le_of_eq hr)
      cases okb <;> inv_auto
  | fire i hc hp => inv_auto
  | retire i hc hp => inv_auto
  | loadFlag i b hc hp hs hb => simp [hst, Strat.usesFlag] at hs
  | xchgFlag i hc hp hs => simp [hst, Strat.usesFlag] at hs
  | setOut i o hc hp => inv_auto
  | load3 i x hc hp hs hx =>
      have hle := St3.le_cases hx
      unfold doLoad3; split <;> inv_auto
  | xchg3 i hc hp hs hv => unfold doXchg3; split <;> inv_auto
  | cas3 i hc hp hs hv => unfold doCas3; split <;> inv_auto
  | loadLf i d hc hp hs hd => rw [hst] at hs; cases hs
  | xchgLf i hc hp hs hv => rw [hst] at hs; cases hs
  | fsubLf i hc hp hs hv => rw [hst] at hs; cases hs
  | dec i store hc hp =>
      have hd := hi.s3_dec i
      unfold doDec; split <;> (try split) <;> inv_auto
  | dtorRel i j hc hp =>
      unfold doDtorRel; split <;> (try split) <;> (try split) <;> inv_auto
  | dtorSet i o hc hp ho => inv_auto
  | dtorThrow i hc hp ho => inv_auto
  | crash i hc hp => inv_auto

theorem invg_reachable {w s} (hst : w.strat = .anyFF) (h : Reachable w s) : InvG w s := by
  induction h with
  | init => exact invg_init w
  | step hr hs ih => exact invg_step hst (invc_reachable hr) ih hs

theorem invl_step {w s l s'} (hst : w.strat = .anyLF) (hC : InvC w s) (hR : InvR w s) (hi : InvL w s) (hs : Step w s l s') :
    InvL w s' := by
  cases hs with
  | regSet i okb hc hb hr hn => cases okb <;> inv_auto
  | fire i hc hp => inv_auto
  | retire i hc hp => inv_auto
  | loadFlag i b hc hp hs hb => simp [hst, Strat.usesFlag] at hs
  | xchgFlag i hc hp hs => simp [hst, Strat.usesFlag] at hs
  | setOut i o hc hp => inv_auto
  | load3 i x hc hp hs hx => rw [hst] at hs; cases hs
  | xchg3 i hc hp hs hv => rw [hst] at hs; cases hs
  | cas3 i hc hp hs hv => rw [hst] at hs; cases hs
  | loadLf i d hc hp hs hd => cases d <;> inv_auto
  | xchgLf i hc hp hs hv =>
      have hcnt := hR.rmw_cnt hp (hC.idx (by rw [hp]; simp))
      unfold doXchgLf; split <;> inv_auto
  | fsubLf i hc hp hs hv =>
      have hcnt := hR.rmw_cnt hp (hC.idx (by rw [hp]; simp))
      have hw1 := @subWrap_odd s.lf
      have hw2 := @subWrap_even s.lf
      unfold doFsubLf; split <;> inv_auto
  | dec i store hc hp =>
      unfold doDec; split <;> (try split) <;> inv_auto
  | dtorRel i j hc hp =>
      unfold doDtorRel; split <;> (try split) <;> (try split) <;> inv_auto
  | dtorSet i o hc hp ho => inv_auto
  | dtorThrow i hc hp ho => inv_auto
  | crash i hc hp => inv_auto

theorem invr_reachable {w s} (h : Reachable w s) : InvR w s := by
  induction h with
  | init => exact invr_init w
  | step hr hs ih => exact invr_step (invc_reachable hr) ih hs

theorem invl_reachable {w s} (hst : w.strat = .anyLF) (hn : 2 * w.n < two64) (hn0 : w.n ≠ 0) (h : Reachable w s) : InvL w s := by
  induction h with
  | init => exact invl_init w hn hn0
  | step hr hs ih => exact invl_step hst (invc_reachable hr) (invr_reachable hr) ih hs

end Yaclib.When
