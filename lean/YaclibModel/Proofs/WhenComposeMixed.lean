/- WhenM: simulation for packs mixing unique and shared inputs, from the per-kind lemmas of WhenU and WhenS. -/
import YaclibModel.Model.WhenComposeMixed
import YaclibModel.Proofs.WhenComposeSim
import YaclibModel.Proofs.WhenComposeSharedSim

namespace Yaclib.WhenM
open Yaclib

variable {W : Workload} {S : State}

/-- every instance (of either kind) is a run of its model; the ones of the other kind never move -/
theorem parts_reachable (h : Reachable W S) :
    ∀ i, (Unique.Reachable (WhenU.wU W.w i) (S.u i) ∧ WhenU.UOk (S.u i)) ∧
         (Shared.Reachable (WhenS.wS (wsOf W) i) (S.sh i) ∧ WhenS.O0 (S.sh i)) := by
  induction h with
  | init => intro i; exact ⟨⟨.init, WhenU.uok_init W.w i⟩, ⟨.init, WhenS.o0_init (wsOf W) i⟩⟩
  | step hr hs ih =>
      intro j
      have keyU : ∀ (i : Nat) (l : Unique.Label) (u' : Unique.State) (uu : Nat → Unique.State), WhenU.used l = true →
          Unique.Step (uu i) l u' → (Unique.Reachable (WhenU.wU W.w i) (uu i) ∧ WhenU.UOk (uu i)) →
          (Unique.Reachable (WhenU.wU W.w j) (uu j) ∧ WhenU.UOk (uu j)) →
          Unique.Reachable (WhenU.wU W.w j) (When.upd uu i u' j) ∧ WhenU.UOk (When.upd uu i u' j) := by
        intro i l u' uu hl hst hi hj
        rw [When.upd_apply]
        by_cases hji : j = i
        · subst hji; simp; exact ⟨.step hi.1 hst, WhenU.uok_step hi.2 hst hl⟩
        · simp [hji]; exact hj
      have keyS : ∀ (i : Nat) (l : Shared.Label) (s' : Shared.State) (ss : Nat → Shared.State),
          Shared.Step (ss i) l s' → Shared.Reachable (WhenS.wS (wsOf W) i) (ss i) → WhenS.O0 s' →
          (Shared.Reachable (WhenS.wS (wsOf W) j) (ss j) ∧ WhenS.O0 (ss j)) →
          Shared.Reachable (WhenS.wS (wsOf W) j) (When.upd ss i s' j) ∧ WhenS.O0 (When.upd ss i s' j) := by
        intro i l s' ss hst hi ho hj
        rw [When.upd_apply]
        by_cases hji : j = i
        · subst hji; simp; exact ⟨.step hi hst, ho⟩
        · simp [hji]; exact hj
      cases hs with
      | «when» l wh' hl h => exact ih j
      | uprod i old u' hk hi h => exact ⟨keyU i _ u' _ rfl h (ih i).1 (ih j).1, (ih j).2⟩
      | ucload i x u' hk hr h => exact ⟨keyU i _ u' _ rfl h (ih i).1 (ih j).1, (ih j).2⟩
      | ucasOk i u' hk hr h => exact ⟨keyU i _ u' _ rfl h (ih i).1 (ih j).1, (ih j).2⟩
      | ucasFail i u' hk hr h => exact ⟨keyU i _ u' _ rfl h (ih i).1 (ih j).1, (ih j).2⟩
      | uenterC i r u' hk hr h => exact ⟨keyU i _ u' _ rfl h (ih i).1 (ih j).1, (ih j).2⟩
      | uenterP i r u' hk hi h => exact ⟨keyU i _ u' _ rfl h (ih i).1 (ih j).1, (ih j).2⟩
      | sfree i l s' hk hi hl h =>
          have hf := WhenS.free_frame (Shared.inv_reachable (ih i).2.1) (ih i).2.2.jobs h hl
          exact ⟨(ih j).1, keyS i l s' _ h (ih i).2.1 ⟨by rw [hf.1]; exact (ih i).2.2.shape, hf.2.1⟩ (ih j).2⟩
      | sreg i l s' hk hr hl h => exact ⟨(ih j).1, keyS i l s' _ h (ih i).2.1 (WhenS.reg_frame (ih i).2.2 h hl).1 (ih j).2⟩
      | scasOk i s' hk hr h => exact ⟨(ih j).1, keyS i _ s' _ h (ih i).2.1 (WhenS.casOk_frame (ih i).2.2 h).1 (ih j).2⟩
      | senterC i s' hk hr h =>
          exact ⟨(ih j).1, keyS i _ s' _ h (ih i).2.1 (WhenS.enterC_frame (Shared.inv_reachable (ih i).2.1) (ih i).2.2 h).1 (ih j).2⟩
      | senterP i s' hk hi h =>
          exact ⟨(ih j).1, keyS i _ s' _ h (ih i).2.1 (WhenS.enterP_frame (Shared.inv_reachable (ih i).2.1) (ih i).2.2 h).1 (ih j).2⟩

/-- the coupling invariant: per input, the coupling of its kind -/
structure K (W : Workload) (S : State) : Prop where
  u_fire : ∀ i, W.kind i = false → (S.u i).ppc = .fire .cont → S.wh.pc i = .pending
  u_word : ∀ i, W.kind i = false → (S.u i).word = .cb .cont → S.wh.pc i = .pending
  u_entries : ∀ i, W.kind i = false → S.wh.consumed i = (S.u i).delivered.length
  u_todo : ∀ i, W.kind i = false → ((S.u i).todo = [] ↔ i < S.wh.reg)
  s_lists : ∀ i, W.kind i = true → WhenS.inLists (S.sh i) → S.wh.pc i = .pending
  s_entries : ∀ i, W.kind i = true → S.wh.consumed i = (Shared.firedIds (S.sh i)).count WhenS.cb0
  s_todo : ∀ i, W.kind i = true → (((S.sh i).obs 0).todo = [] ↔ i < S.wh.reg)

theorem k_init (W : Workload) : K W (init W) := by
  constructor <;>
    simp [init, When.init, Unique.init, WhenU.wU, Shared.init, WhenS.wS, WhenS.inLists, Shared.wordList, Shared.walkList,
      Shared.firedIds]

/- patterns for the clauses of `K` -/
namespace Auto
attribute [scoped grind! .] K.u_fire K.u_word K.u_entries K.u_todo K.s_lists K.s_entries K.s_todo
attribute [scoped grind =] When.upd_apply
end Auto
open Auto

theorem sim_step {S' : State} {l : Label} (hwf : W.w.wf) (hR : Reachable W S) (hW : When.Reachable W.w S.wh) (hK : K W S)
    (hs : Step W S l S') : When.Reachable W.w S'.wh ∧ K W S' := by
  have hP := parts_reachable hR
  have hcr : S.wh.crashed = false := (When.invb_reachable hwf hW).not_crashed
  cases hs with
  | «when» l wh' hl h =>
      obtain ⟨f1, f2, f3, f4⟩ := WhenU.when_frame h hl
      refine ⟨.step hW h, ?_⟩
      constructor <;> simp only [f1, f2, f3] <;> grind
  | uprod i old u' hk hi h =>
      refine ⟨hW, ?_⟩
      obtain ⟨c1, c2, c3, c4, c5⟩ := (hP i).1.2
      cases h
      rename_i hp hw
      rcases c3 with c3 | c3 | c3
      · simp only [Unique.doXchg, c3]; kauto
      · simp only [Unique.doXchg, c3]; kauto
      · exact absurd c3 hw
  | ucload i x u' hk hr h =>
      refine ⟨hW, ?_⟩
      obtain ⟨c1, c2, c3, c4, c5⟩ := (hP i).1.2
      cases h with
      | cAttLoad op rest k x' hc ht hk' hx =>
          have hop : op = .fin (.attach false) ∧ k = .cont := by
            rcases c2 with c2 | c2
            · rw [c2] at ht; cases ht; simp [Unique.opCb, Unique.finCb] at hk'; exact ⟨rfl, hk'.symm⟩
            · rw [c2.1] at ht; cases ht
          obtain ⟨rfl, rfl⟩ := hop
          by_cases hx0 : x = .empty <;> simp only [Unique.doAttLoad, hx0, if_true, if_false] <;> kauto
      | cReadyLoad rest x' hc ht hx =>
          rcases c2 with c2 | c2
          · rw [c2] at ht; cases ht
          · rw [c2.1] at ht; cases ht
      | cGetcLoad rest x' hc ht hx =>
          rcases c2 with c2 | c2
          · rw [c2] at ht; cases ht
          · rw [c2.1] at ht; cases ht
  | ucasOk i u' hk hr h =>
      obtain ⟨r1, r2, r3, r4⟩ := hr
      refine ⟨.step hW (.regSet S.wh i true r4 r2 r1 r3), ?_⟩
      obtain ⟨c1, c2, c3, c4, c5⟩ := (hP i).1.2
      cases h
      rename_i hp hw
      kauto
  | ucasFail i u' hk hr h =>
      refine ⟨hW, ?_⟩
      cases h
      rename_i hp hw
      kauto
  | uenterC i r u' hk hr h =>
      obtain ⟨r1, r2, r3, r4⟩ := hr
      refine ⟨.step hW (.regSet S.wh i false r4 r2 r1 r3), ?_⟩
      obtain ⟨c1, c2, c3, c4, c5⟩ := (hP i).1.2
      have hI := Unique.inv_reachable (hP i).1.1
      cases h with
      | cInvoke r' hp hv hst =>
          have hca := hI.c_after (Or.inl ⟨_, hp⟩)
          kauto
      | cInvokeSub r' hp hst => rw [hp] at c1; simp at c1
  | uenterP i r u' hk hi h =>
      obtain ⟨c1, c2, c3, c4, c5⟩ := (hP i).1.2
      have hI := Unique.inv_reachable (hP i).1.1
      cases h with
      | pInvoke r' hp hv hst =>
          have hpend := hK.u_fire i hk hp
          have hword : (S.u i).word = .result := by
            cases hw : (S.u i).word with
            | result => rfl
            | empty => have := hI.start_iff.mpr (by rw [hw]; simp); rw [hp] at this; cases this
            | cb k => have := hI.start_iff.mpr (by rw [hw]; simp); rw [hp] at this; cases this
          refine ⟨.step hW (.fire S.wh i hcr hpend), ?_⟩
          kauto
      | pInvokeSub r' hp hst => rw [hp] at c4; simp at c4
  | sfree i l s' hk hi hl h =>
      obtain ⟨f1, f2, f3, f4⟩ := WhenS.free_frame (Shared.inv_reachable (hP i).2.1) (hP i).2.2.jobs h hl
      refine ⟨hW, ?_⟩
      kauto
  | sreg i l s' hk hr hl h =>
      obtain ⟨f1, f2, f3, f4⟩ := WhenS.reg_frame (hP i).2.2 h hl
      refine ⟨hW, ?_⟩
      kauto
  | scasOk i s' hk hr h =>
      obtain ⟨r1, r2, r3, r4⟩ := hr
      obtain ⟨f1, f2, f3, f4⟩ := WhenS.casOk_frame (hP i).2.2 h
      refine ⟨.step hW (.regSet S.wh i true r4 r2 r1 r3), ?_⟩
      kauto
  | senterC i s' hk hr h =>
      obtain ⟨r1, r2, r3, r4⟩ := hr
      obtain ⟨f1, f2, f3, f4, f5, f6, f7⟩ := WhenS.enterC_frame (Shared.inv_reachable (hP i).2.1) (hP i).2.2 h
      refine ⟨.step hW (.regSet S.wh i false r4 r2 r1 r3), ?_⟩
      kauto
  | senterP i s' hk hi h =>
      obtain ⟨f1, f2, f3, f4, f5, f6, f7⟩ := WhenS.enterP_frame (Shared.inv_reachable (hP i).2.1) (hP i).2.2 h
      refine ⟨.step hW (.fire S.wh i hcr (hK.s_lists i hk f2)), ?_⟩
      kauto

/-- **the simulation** for mixed packs -/
theorem sim (hwf : W.w.wf) (h : Reachable W S) : When.Reachable W.w S.wh ∧ K W S := by
  induction h with
  | init => exact ⟨.init, k_init W⟩
  | step hr hs ih => exact sim_step hwf hr ih.1 ih.2 hs

end Yaclib.WhenM
