/- Invariants of the C07 model (Model/Strand.lean), part 1: the token invariant. -/
import YaclibModel.Model.Strand

namespace Yaclib.Strand

/-- activation states that own the token (the strand is scheduled / running because of them) -/
def holdsTok : APc → Bool
  | .queued | .run _ | .busy _ _ | .cas | .resub => true
  | _ => false

/-- activation states that are about to `exchange` the inbox: it must be a non-empty list -/
def needsInbox : APc → Bool
  | .queued | .resub => true
  | _ => false

def callRem : APc → List JobId
  | .run rem => rem
  | .busy _ rem => rem
  | _ => []

def drainRem : APc → List JobId
  | .drain rem => rem
  | _ => []

def isBusy : APc → Bool
  | .busy _ _ => true
  | _ => false

def remOf (acts : Nat → APc) : Option Holder → List JobId
  | some (.act a) => callRem (acts a)
  | _ => []

def busyOf (acts : Nat → APc) : Option Holder → Nat
  | some (.act a) => if isBusy (acts a) then 1 else 0
  | _ => 0

/-- the part of the current batch that has not been Called yet -/
def curRem (s : State) : List JobId := remOf s.acts s.holder

/-- number of job bodies the token holder is inside of (0 or 1) -/
def curBusy (s : State) : Nat := busyOf s.acts s.holder

@[simp] theorem upd_same {α : Type} (f : Nat → α) (i : Nat) (v : α) : upd f i v i = v := by simp [upd]
theorem upd_other {α : Type} (f : Nat → α) (i x : Nat) (v : α) (h : x ≠ i) : upd f i v x = f x := by simp [upd, h]

theorem remOf_upd_other {acts : Nat → APc} {a : Nat} {v : APc} {h : Option Holder} (hne : h ≠ some (.act a)) :
    remOf (upd acts a v) h = remOf acts h := by
  cases h with
  | none => rfl
  | some x =>
      cases x with
      | sub i => rfl
      | act b =>
          have : b ≠ a := fun hb => hne (by rw [hb])
          simp [remOf, upd, this]

theorem busyOf_upd_other {acts : Nat → APc} {a : Nat} {v : APc} {h : Option Holder} (hne : h ≠ some (.act a)) :
    busyOf (upd acts a v) h = busyOf acts h := by
  cases h with
  | none => rfl
  | some x =>
      cases x with
      | sub i => rfl
      | act b =>
          have : b ≠ a := fun hb => hne (by rw [hb])
          simp [busyOf, upd, this]

/-- **token invariant**: the word differs from the idle marker iff exactly one party — a submitter between its
    CAS and `_executor->Submit`, a queued activation, or a Call activation that has not yet given the strand
    back — is responsible for it (named by the ghost `holder`). -/
structure InvTok (w : Workload) (s : State) : Prop where
  hw : s.w = w
  tok_none : s.holder = none ↔ s.word = .mark
  tok_sub : ∀ i, s.spc i = .sched ↔ s.holder = some (.sub i)
  tok_act : ∀ a, holdsTok (s.acts a) = true ↔ s.holder = some (.act a)
  tok_sub_word : ∀ i, s.holder = some (.sub i) → s.word.nonempty = true
  tok_act_word : ∀ a, needsInbox (s.acts a) = true → s.word.nonempty = true
  no_crash : ∀ a, s.acts a ≠ .crashed
  drain_ne : ∀ a, s.acts a ≠ .drain []
  fresh : ∀ a, s.nacts ≤ a → s.acts a = .none
  sidx_le : ∀ i, s.sidx i ≤ jobsOf w i
  cas_lt : ∀ i exp, s.spc i = .cas exp → s.sidx i < jobsOf w i
  running_eq : s.running = curBusy s

theorem invTok_init (w : Workload) : InvTok w (init w) := by
  constructor <;> simp [init, holdsTok, needsInbox, curBusy, busyOf]

theorem word_nonempty_cases {x : Word} (h : x.nonempty = true) : ∃ j js, x = .list (j :: js) := by
  cases x with
  | mark => simp [Word.nonempty] at h
  | list js =>
      cases js with
      | nil => simp [Word.nonempty] at h
      | cons j js => exact ⟨j, js, rfl⟩

theorem Word.head_eq_mark {x : Word} : x.head = .mark ↔ x = .mark := by
  cases x with
  | mark => simp [Word.head]
  | list js => cases js <;> simp [Word.head]

theorem Word.head_ne_mark_inbox {x : Word} (h : x.head ≠ .mark) : x = .list x.inbox := by
  cases x with
  | mark => simp [Word.head] at h
  | list js => simp [Word.inbox]

theorem Word.nonempty_of {x : Word} (h1 : x ≠ .mark) (h2 : x ≠ .list []) : x.nonempty = true := by
  cases x with
  | mark => exact absurd rfl h1
  | list js =>
      cases js with
      | nil => exact absurd rfl h2
      | cons j js => rfl

theorem needsInbox_holds {x : APc} (h : needsInbox x = true) : holdsTok x = true := by
  cases x <;> simp_all [needsInbox, holdsTok]

theorem callRem_holds {x : APc} (h : callRem x ≠ []) : holdsTok x = true := by
  cases x <;> simp_all [callRem, holdsTok]

theorem isBusy_holds {x : APc} (h : isBusy x = true) : holdsTok x = true := by
  cases x <;> simp_all [isBusy, holdsTok]

/- `grind` finds the clauses of `InvTok` by itself: a clause about the
   whole state as soon as the invariant is among the hypotheses, a clause about a submitter or an activation when a term about
   it (`s.spc i`, `s.acts a`, …) occurs. -/
namespace Auto
attribute [scoped grind →] InvTok.hw InvTok.tok_none InvTok.running_eq needsInbox_holds
attribute [scoped grind! .] InvTok.tok_sub InvTok.tok_act InvTok.tok_sub_word InvTok.tok_act_word InvTok.no_crash
  InvTok.drain_ne InvTok.fresh
scoped grind_pattern InvTok.sidx_le => InvTok w s, s.sidx i
scoped grind_pattern InvTok.cas_lt => InvTok w s, s.sidx i, SPc.cas exp
scoped grind_pattern Word.nonempty_of => x.nonempty
attribute [scoped grind =] curBusy curRem Word.head_eq_mark busyOf_upd_other remOf_upd_other
attribute [scoped grind] upd busyOf remOf callRem holdsTok needsInbox isBusy Word.nonempty Word.head Word.inbox
end Auto

/-- one clause of the invariant of the new state at a time, with the step's effect unfolded -/
macro "inv_auto" : tactic =>
  `(tactic| (constructor <;> simp only [doLoad, doCasOk, doSched, doCall, doBegin, doEnd, doALoad, doACasOk, doACasFail,
      doResub, doDropX, doDrop, upd] <;> grind -ring -linarith -ac -order))

open Auto in
theorem invTok_step {w s l s'} (hi : InvTok w s) (hs : Step s l s') : InvTok w s' := by
  cases hs with
  | sLoad i v h hj hv => inv_auto
  | sCasOk i exp h he => by_cases hm : exp = .mark <;> simp only [doCasOk, hm, ↓reduceIte] <;> inv_auto
  | sCasFail i exp v h hne hv => inv_auto
  | sCasSpur i exp h => exact hi
  | sSched i h => inv_auto
  | aCall a h =>
      obtain ⟨j, js, hwd⟩ := word_nonempty_cases (hi.tok_act_word a (by rw [h]; rfl))
      simp only [doCall, hwd]; inv_auto
  | aBegin a j rem h => inv_auto
  | aEnd a j rem h => inv_auto
  | aLoad a sawNull h hv => cases sawNull <;> inv_auto
  | aCasOk a h hw => inv_auto
  | aCasFail a h hw => inv_auto
  | aResub a h => inv_auto
  | aDropX a h =>
      obtain ⟨j, js, hwd⟩ := word_nonempty_cases (hi.tok_act_word a (by rw [h]; rfl))
      simp only [doDropX, hwd]; inv_auto
  | aDrop a j rem h => inv_auto

end Yaclib.Strand
