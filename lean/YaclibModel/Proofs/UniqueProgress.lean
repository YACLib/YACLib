/- Progress for the C01 model: a state in which no step is enabled is a state in which both threads have finished. -/
-- `UniqueOwn` is imported only so that the equation lemmas Lean derives on demand for the `match`es in `doXchg`,
-- `doCasOk`, `afterFail` exist once, upstream of every module that unfolds them: two modules that each derive them
-- cannot be imported together
import YaclibModel.Proofs.UniqueOwn

namespace Yaclib.Unique

theorem stored_of_busy {w s} (hi : Inv w s) (hword : s.word = .result) (hbusy : s.cpc ≠ .idle) :
    s.stored = some w.prod.res := by
  rcases hi.stored_live hword with h | h
  · exact h
  · exact absurd h.1 hbusy

theorem producer_done_of_quiescent {w s} (hi : Inv w s) (hq : ∀ l s', ¬ Step s l s') : s.ppc = .done := by
  cases hp : s.ppc with
  | start => exact absurd (Step.pXchg s hp (hi.start_iff.mp hp)) (hq _ _)
  | done => rfl
  | submitted => exact absurd (Step.pInvokeSub s _ hp (hi.psub hp).2) (hq _ _)
  | evLocked => exact absurd (Step.pEvUnlock s hp) (hq _ _)
  | fire k =>
      have hf := hi.fire k hp
      cases k with
      | drop => exact absurd rfl hf.1
      | cont =>
          have hst := (hf.2.2 (by simp)).2
          cases hv : s.viaExec with
          | true => exact absurd (Step.pSubmit s hp hv) (hq _ _)
          | false => exact absurd (Step.pInvoke s _ hp hv hst) (hq _ _)
      | target => exact absurd (Step.pForward s _ hp (hf.2.2 (by simp)).2) (hq _ _)
      | event =>
          cases hh : s.evHolder with
          | none => exact absurd (Step.pEvLock s hp hh) (hq _ _)
          | some t =>
              cases t with
              | p => have := hi.holder_p hh; rw [hp] at this; cases this
              | c =>
                  obtain ⟨b, hb⟩ := hi.holder_c.mp hh
                  cases b with
                  | false => exact absurd (Step.cWaitSleep s hb) (hq _ _)
                  | true => exact absurd (Step.cWaitDone s hb) (hq _ _)

theorem consumer_done_of_quiescent {w s} (hi : Inv w s) (hq : ∀ l s', ¬ Step s l s') : s.cpc = .idle ∧ s.todo = [] := by
  have hpd := producer_done_of_quiescent hi hq
  cases hc : s.cpc with
  | idle =>
      refine ⟨rfl, ?_⟩
      cases ht : s.todo with
      | nil => rfl
      | cons op rest =>
          cases op with
          | pre o =>
              cases o with
              | ready => exact absurd (Step.cReadyLoad s rest s.word hc ht (Or.inl rfl)) (hq _ _)
              | getc => exact absurd (Step.cGetcLoad s rest s.word hc ht (Or.inl rfl)) (hq _ _)
              | wait => exact absurd (Step.cAttLoad s _ rest .event s.word hc ht rfl (Or.inl rfl)) (hq _ _)
          | fin f =>
              cases f with
              | attach b => exact absurd (Step.cAttLoad s _ rest .cont s.word hc ht rfl (Or.inl rfl)) (hq _ _)
              | drop => exact absurd (Step.cAttLoad s _ rest .drop s.word hc ht rfl (Or.inl rfl)) (hq _ _)
              | getMove => exact absurd (Step.cAttLoad s _ rest .event s.word hc ht rfl (Or.inl rfl)) (hq _ _)
              | connect => exact absurd (Step.cAttLoad s _ rest .target s.word hc ht rfl (Or.inl rfl)) (hq _ _)
  | attLoaded k =>
      by_cases hw : s.word = .empty
      · exact absurd (Step.cCasOk s k hc hw) (hq _ _)
      · exact absurd (Step.cCasFail s k hc hw) (hq _ _)
  | attFailed k =>
      have hbusy : s.cpc ≠ .idle := by rw [hc]; simp
      have hst := stored_of_busy hi (hi.c_after (Or.inl ⟨k, hc⟩)).1 hbusy
      rcases hi.c_failed_kind k hc with hk | hk <;> subst hk
      · cases hv : s.viaExec with
        | true => exact absurd (Step.cSubmit s hc hv) (hq _ _)
        | false => exact absurd (Step.cInvoke s _ hc hv hst) (hq _ _)
      · exact absurd (Step.cForward s _ hc hst) (hq _ _)
  | submitted =>
      have hbusy : s.cpc ≠ .idle := by rw [hc]; simp
      have hst := stored_of_busy hi (hi.c_after (Or.inr (Or.inl hc))).1 hbusy
      exact absurd (Step.cInvokeSub s _ hc hst) (hq _ _)
  | repReady b => exact absurd (Step.cReady s b hc) (hq _ _)
  | repGetc b => exact absurd (Step.cGetc s b hc) (hq _ _)
  | repGot =>
      have hbusy : s.cpc ≠ .idle := by rw [hc]; simp
      have hst := stored_of_busy hi (hi.c_after (Or.inr (Or.inr hc))).1 hbusy
      exact absurd (Step.cGot s _ hc hst) (hq _ _)
  | waitLocked b =>
      cases b with
      | false => exact absurd (Step.cWaitSleep s hc) (hq _ _)
      | true => exact absurd (Step.cWaitDone s hc) (hq _ _)
  | waitAttached =>
      cases hh : s.evHolder with
      | none => exact absurd (Step.cWaitLock s (Or.inl hc) hh) (hq _ _)
      | some t =>
          cases t with
          | p => have := hi.holder_p hh; rw [hpd] at this; cases this
          | c => obtain ⟨b, hb⟩ := hi.holder_c.mp hh; rw [hc] at hb; cases hb
  | waitSleeping =>
      cases hh : s.evHolder with
      | none => exact absurd (Step.cWaitLock s (Or.inr hc) hh) (hq _ _)
      | some t =>
          cases t with
          | p => have := hi.holder_p hh; rw [hpd] at this; cases this
          | c => obtain ⟨b, hb⟩ := hi.holder_c.mp hh; rw [hc] at hb; cases hb

end Yaclib.Unique
