/- Structural invariant of the combinator model: registration loop, reference count, destructor exclusivity,
   consumption / release ghosts. -/
import YaclibModel.Proofs.WhenBase

namespace Yaclib.When

structure InvC (w : Workload) (s : State) : Prop where
  reg_le : s.reg ≤ w.n
  unreg : ∀ j, s.pc j = .unreg ↔ s.reg ≤ j
  busy : ∀ i, s.busy = some i → active (s.pc i) = true
  /-- the reference count is the number of inputs whose consumption has not dropped its reference yet -/
  count : s.count = cntH s.pc w.n
  /-- whoever runs the destructor is alone: every other consumption has finished -/
  dtor : ∀ i j, inDtor (s.pc i) = true → j < w.n → j ≠ i → s.pc j = .done
  dt_cnt : s.dt ≠ none → s.count = 0
  cnt_dt : s.count = 0 → w.n ≠ 0 → s.dt ≠ none
  dt_pc : ∀ i, s.dt = some i → holding (s.pc i) = false
  dtor_dt : ∀ i, inDtor (s.pc i) = true → s.dt = some i
  rel_le : s.relIdx ≤ w.n
  dtorRel : ∀ i j, s.pc i = .dtorRel j → j < w.n ∧ s.relIdx = j ∧ w.strat.isAllVec = true
  dtorSet_rel : ∀ i, s.pc i = .dtorSet → w.strat.isAllVec = true → s.relIdx = w.n
  dt_done_rel : ∀ i, s.dt = some i → s.pc i = .done → w.strat.isAllVec = true → s.relIdx = w.n
  rel0 : s.dt = none → s.relIdx = 0
  rel_nv : w.strat.isAllVec = false → s.relIdx = 0
  released_m : w.strat.managed = true → ∀ j, s.released j = if beforeRetire (s.pc j) = true then 0 else 1
  released_o : w.strat.managed = false → ∀ j, s.released j = if j < s.relIdx then 1 else 0
  retire_m : ∀ j, s.pc j = .retire → w.strat.managed = true
  consumed : ∀ j, s.consumed j = if entered (s.pc j) = true then 1 else 0
  word : ∀ i, s.pc i = .load ∨ s.pc i = .rmw → w.strat.hasWord = true ∧ (w.strat.allFF = true → ok (w.inp i) = false)
  setout : ∀ i o, s.pc i = .setOut o → o = .one (w.inp i)

theorem InvC.idx {w s} (hi : InvC w s) {i : Nat} (h : s.pc i ≠ .unreg) : i < w.n := by
  have h1 : ¬ s.reg ≤ i := fun hle => h ((hi.unreg i).mpr hle)
  have := hi.reg_le
  omega

/-- the consumption that sees `count = 1` is the only one still holding a reference -/
theorem InvC.last_holder {w s} (hi : InvC w s) {i j : Nat} (hc : s.count = 1) (hh : holding (s.pc i) = true)
    (hne : s.pc i ≠ .unreg) (hj : j < w.n) (hji : j ≠ i) : holding (s.pc j) = false := by
  have h1 := hi.count
  rw [hc] at h1
  exact cnt_one_unique (p := fun j => holding (s.pc j)) h1.symm (hi.idx hne) hh hj hji

theorem InvC.count_pos {w s} (hi : InvC w s) {i : Nat} (hh : holding (s.pc i) = true) (hne : s.pc i ≠ .unreg) :
    0 < s.count := by
  rw [hi.count]
  exact cnt_pos (p := fun j => holding (s.pc j)) (hi.idx hne) hh

theorem Strat.managed_of_isAllVec {st : Strat} (h : st.isAllVec = true) : st.managed = false := by
  cases st <;> simp_all [Strat.isAllVec, Strat.managed]

/- The invariants stay folded in the preservation proofs: `grind` instantiates a clause (or a lemma below) where the
   field it constrains occurs, for a clause about one input together with that input's program counter. -/
namespace Auto
scoped grind_pattern InvC.reg_le => InvC w s, s.reg
scoped grind_pattern InvC.count => InvC w s, s.count
scoped grind_pattern InvC.dt_cnt => InvC w s, s.count
scoped grind_pattern InvC.dt_cnt => InvC w s, s.dt
scoped grind_pattern InvC.cnt_dt => InvC w s, s.dt
scoped grind_pattern InvC.cnt_dt => InvC w s, s.count
scoped grind_pattern InvC.rel_le => InvC w s, s.relIdx
scoped grind_pattern InvC.rel0 => InvC w s, s.relIdx
scoped grind_pattern InvC.rel_nv => InvC w s, s.relIdx
scoped grind_pattern InvC.idx => InvC w s, s.pc i, w.n
scoped grind_pattern InvC.unreg => InvC w s, s.pc j, s.reg
scoped grind_pattern InvC.busy => InvC w s, s.busy, s.pc i
scoped grind_pattern InvC.dtor => InvC w s, inDtor (s.pc i), s.pc j
scoped grind_pattern InvC.dt_pc => InvC w s, s.dt, s.pc i
scoped grind_pattern InvC.dtor_dt => InvC w s, inDtor (s.pc i)
scoped grind_pattern InvC.dtorRel => InvC w s, s.pc i, IPc.dtorRel j
scoped grind_pattern InvC.dtorSet_rel => InvC w s, s.pc i, s.relIdx
scoped grind_pattern InvC.dt_done_rel => InvC w s, s.dt, s.pc i, s.relIdx
scoped grind_pattern InvC.released_m => InvC w s, s.released j
scoped grind_pattern InvC.released_o => InvC w s, s.released j
scoped grind_pattern InvC.retire_m => InvC w s, s.pc j, IPc.retire
scoped grind_pattern InvC.consumed => InvC w s, s.consumed j
scoped grind_pattern InvC.word => InvC w s, s.pc i, w.strat.hasWord
scoped grind_pattern InvC.setout => InvC w s, s.pc i, IPc.setOut o
scoped grind_pattern InvC.last_holder => InvC w s, s.count, holding (s.pc i), holding (s.pc j)
attribute [scoped grind →] done_of_not_holding Strat.managed_of_isAllVec
attribute [scoped grind .] InvC.count_pos cntH_upd
attribute [scoped grind] active holding inDtor beforeRetire entered Strat.managed Strat.isAllVec
attribute [scoped grind =] upd_apply
end Auto
open Auto

/-- closes `Inv… w s'` for a post-state `s'` written with the effect functions: one goal per clause, the effect unfolded in
    the goal only, the invariant of the pre-state folded among the hypotheses; each clause goes to `grind`
    (its solvers for rings, ordered fields, AC and orders are off: the clauses need linear integer arithmetic only) -/
macro "inv_auto" : tactic =>
  `(tactic| (constructor <;>
      simp only [doRegSet, doFire, doRetire, doLoadFlag, doLoadLf, doSetOut, doDtorSet, setPc, finish, lose, storeSaved, storeSlots] <;> grind -ring -linarith -ac -order))

/-- a step on the strategy word moves input `i` from `load` / `rmw` to `rmw`, `dec _` or `setOut`; nothing else that `InvC`
    speaks of changes -/
theorem InvC.word_step {w s} (hi : InvC w s) {i : Nat} {p : IPc} (hp : s.pc i = .load ∨ s.pc i = .rmw)
    (hp' : p = .rmw ∨ p = .dec false ∨ p = .dec true ∨ p = .setOut (.one (w.inp i)))
    (flag st3 lf win errBy rmwDone rmwOrder) :
    InvC w { s with pc := upd s.pc i p, flag, st3, lf, win, errBy, rmwDone, rmwOrder } := by
  inv_auto

theorem InvC.dec_step {w s} (hi : InvC w s) {i : Nat} {store : Bool} (hp : s.pc i = .dec store) :
    InvC w (doDec w s i store) := by
  have h1 := dtorStart_cases w.strat s.pValid
  unfold doDec
  split
  · rcases h1 with h1 | h1 | h1 <;> simp only [h1.1] <;> inv_auto
  · inv_auto

theorem InvC.dtorRel_step {w s} (hi : InvC w s) {i j : Nat} (hp : s.pc i = .dtorRel j) : InvC w (doDtorRel w s i j) := by
  have hd := hi.dtorRel i j hp
  unfold doDtorRel
  split <;> (try split) <;> (try split) <;> inv_auto

/-- where a consumption goes after releasing its input, in the terms of `InvC`: it reads the word only under a strategy that
    has one, and under FirstFail only with a failure -/
theorem afterRetire_pc (st : Strat) (r : Res) :
    active (afterRetire st r) = true ∧ holding (afterRetire st r) = true ∧ inDtor (afterRetire st r) = false ∧
    entered (afterRetire st r) = true ∧ beforeRetire (afterRetire st r) = false ∧ afterRetire st r ≠ .rmw ∧
    (∀ o, afterRetire st r ≠ .setOut o) ∧
    (afterRetire st r = .load → st.hasWord = true ∧ (st.allFF = true → ok r = false)) := by
  have := afterRetire_cases st r; grind

/-- where a consumption starts: at the release of its input exactly under a managed strategy -/
theorem consumeStart_pc (st : Strat) (r : Res) :
    active (consumeStart st r) = true ∧ holding (consumeStart st r) = true ∧ inDtor (consumeStart st r) = false ∧
    entered (consumeStart st r) = true ∧ beforeRetire (consumeStart st r) = st.managed ∧ consumeStart st r ≠ .rmw ∧
    (∀ o, consumeStart st r ≠ .setOut o) ∧
    (consumeStart st r = .load → st.hasWord = true ∧ (st.allFF = true → ok r = false)) := by
  have := afterRetire_pc st r; have := consumeStart_cases st r; grind

theorem invc_step {w s l s'} (hi : InvC w s) (hs : Step w s l s') : InvC w s' := by
  cases hs with
  | regSet i okb hc hb hr hn =>
      have hu : s.pc i = .unreg := (hi.unreg i).mpr (Nat.le_of_eq hr)
      have := consumeStart_pc w.strat (w.inp i)
      cases okb <;> inv_auto
  | fire i hc hp => have := consumeStart_pc w.strat (w.inp i); inv_auto
  | retire i hc hp => have := afterRetire_pc w.strat (w.inp i); inv_auto
  | loadFlag i b hc hp hs hb => exact hi.word_step (.inl hp) (by cases b <;> simp [lose]) ..
  | xchgFlag i hc hp hs => unfold doXchgFlag; split <;> exact hi.word_step (.inr hp) (by simp [lose]) ..
  | load3 i x hc hp hs hx => unfold doLoad3; split <;> exact hi.word_step (.inl hp) (by split <;> simp) ..
  | xchg3 i hc hp hs hv => unfold doXchg3; split <;> exact hi.word_step (.inr hp) (by simp) ..
  | cas3 i hc hp hs hv => unfold doCas3; split <;> exact hi.word_step (.inr hp) (by simp) ..
  | loadLf i d hc hp hs hd => exact hi.word_step (.inl hp) (by cases d <;> simp) ..
  | xchgLf i hc hp hs hv => unfold doXchgLf; split <;> exact hi.word_step (.inr hp) (by simp) ..
  | fsubLf i hc hp hs hv => unfold doFsubLf; split <;> exact hi.word_step (.inr hp) (by simp) ..
  | setOut i o hc hp => inv_auto
  | dec i store hc hp => exact hi.dec_step hp
  | dtorRel i j hc hp => exact hi.dtorRel_step hp
  | dtorSet i o hc hp ho => inv_auto
  | dtorThrow i hc hp ho => inv_auto
  | crash i hc hp => inv_auto

theorem inv_init (w : Workload) : InvC w (init w) := by
  constructor <;> simp [init, active, holding, inDtor, beforeRetire, entered, cntH]
  · have : cnt (fun _ => true) w.n = w.n := by
      induction w.n with
      | zero => rfl
      | succ k ih => simp [cnt, ih]
    exact this.symm

theorem invc_reachable {w s} (h : Reachable w s) : InvC w s := by
  induction h with
  | init => exact inv_init w
  | step _ hs ih => exact invc_step ih hs

end Yaclib.When
