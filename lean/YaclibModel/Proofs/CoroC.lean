/- preservation of the counter invariant InvC; the three invariants together are inductive -/
import YaclibModel.Proofs.CoroA
import YaclibModel.Proofs.CoroB
namespace Yaclib.Coro
open Auto AutoC
attribute [local grind] inOp decided regPos isMulti counted pcKindOk

theorem emptyBased_excl {k : AKind} (h : emptyBased k = true) : isMulti k = false ∧ counted k = false := by
  cases k <;> simp_all [emptyBased, isMulti, counted]

attribute [local grind →] emptyBased_excl

theorem count_replicate_todo (n : Nat) (x : CbSt) (h : x ≠ .todo) : (List.replicate n CbSt.todo).count x = 0 := by
  apply List.count_eq_zero_of_not_mem
  intro hm; exact h (List.eq_of_mem_replicate hm)

theorem regKind_counted_single {k : AKind} (h : regKind k = true) (hm : isMulti k = false) (hc : counted k = true) :
    selfDone k ≠ .susp ∧ decided (selfDone k) = true := by
  cases k <;> simp_all [regKind, isMulti, counted, selfDone, decided]

/-- the counter facts survive a SetCallback outcome: the status of position p goes from `todo` to `x` (pending / failed) -/
theorem invC_regFrom {w : Workload} {s : State} {op : Op} {rest : List Op} {p : Nat} {x : CbSt} (cells' : Nat → Cell)
    (ha : InvA w s) (hb : InvB w s) (hc : InvC w s) (ht : s.todo = op :: rest) (hp : regPos s.pc = some p)
    (hx : x = .pending ∨ x = .failed) :
    InvC w (regFrom { s with st := s.st.set p x, cells := cells' } op (p + 1)) := by
  obtain ⟨hst, hpl, hin, _⟩ := st_at_reg ha hb ht hp
  have hnd : decided s.pc = false := by cases hpc : s.pc <;> simp_all [regPos, decided]
  have hfired := count_set_of_getElem? (l := s.st) (p := p) (x := .todo) (a := x) (b := .fired) hst
  have hfired' : (s.st.set p x).count .fired = s.st.count .fired := by
    rcases hx with h | h <;> subst h <;> simp at hfired <;> exact hfired
  simp only [regFrom, afterReg]
  (repeat' split) <;> inv_auto

theorem invC_step {w s l s'} (hwf : w.WF) (ha : InvA w s) (hb : InvB w s) (hc : InvC w s) (hs : Step s l s') : InvC w s' := by
  cases hs with
  | pXchg j l f hw hl => inv_auto
  | envPush j l f hw hu => inv_auto
  | envSwap j e hu => inv_auto
  | exCall e h => inv_auto
  | exDrop e h => inv_auto
  | ldtor h hl => inv_auto
  | ret h ht => inv_auto
  | publish r h hr hl => inv_auto
  | fdtor h hl => inv_auto
  | rdLoad op rest j x h ht hj hx => inv_auto
  | mload v h hv => inv_auto
  | submit e h => inv_auto
  | current op rest h ht => inv_auto
  | tdtor j h hl hr => inv_auto
  | resume op rest c h ht => inv_auto
  | mready v h => simp only [doMReady]; split <;> inv_auto
  | ready x h =>
      have hpk := ha.pc_kind
      simp only [doReady]; split <;> inv_auto
  | tstore op rest j h ht hj =>
      have hpk := ha.pc_kind op rest ht
      inv_auto
  | start op rest h ht =>
      have h1 := count_replicate_todo op.cells.length .fired (by simp)
      have h2 := count_replicate_todo op.cells.length .pending (by simp)
      rcases hk : op.kind with _ | _ | _ | _ | _ | _ | _ | (_ | _) | _ <;>
        simp only [doStart, hk, regFrom, afterReg, isMulti, startCnt, selfDone] <;> (repeat' split) <;>
        inv_auto
  | regLoad op rest p j x h ht hj hx =>
      simp only [doRegLoad]
      split
      · inv_auto
      · exact invC_regFrom s.cells ha hb hc ht (by rw [h]; rfl) (Or.inr rfl)
  | casOk op rest p j l f h ht hj hw hu =>
      exact invC_regFrom (s := s) (x := .pending) (s.setWord j (.open (p :: l) f)).cells ha hb hc ht (by rw [h]; rfl) (Or.inl rfl)
  | casRetry op rest p j h ht hj hw hu => exact hc
  | casFail op rest p j h ht hj hw => exact invC_regFrom s.cells ha hb hc ht (by rw [h]; rfl) (Or.inr rfl)
  | msub op rest h ht =>
      have hpk := ha.pc_kind op rest ht
      rw [h] at hpk
      have hm : isMulti op.kind = true := by simpa [pcKindOk] using hpk
      have hreg := hc.multi_reg op rest ht hm (Or.inr h)
      have hnt := count_eq_zero_of_forall_ne (hb.no_todo (by rw [h]; rfl))
      have hpart := count_partition s.st
      have hlen := ha.st_len op rest ht (by rw [h]; rfl)
      have hcnt : s.cnt - (op.cells.length - (s.st.count .pending + s.st.count .fired)) = 1 + s.st.count .pending := by omega
      have hsn : subNext op.kind = .mld ∨ subNext op.kind = .msusp := by cases op.kind <;> simp [subNext]
      simp only [doMsub, hcnt]
      inv_auto
  | msuspend op rest h ht =>
      have hpk := ha.pc_kind op rest ht
      rw [h] at hpk
      have hm : isMulti op.kind = true := by simpa [pcKindOk] using hpk
      simp only [doMsuspend]
      split <;> inv_auto
  | fire op rest j p walk ht hw hp =>
      obtain ⟨hcell, hst, hin, hnd, haw, hsingle, hmulti⟩ := fire_pre hwf ha hb hc ht hw hp
      have hpend := count_set_of_getElem? (l := s.st) (p := p) (x := .pending) (a := .fired) (b := .pending) hst
      have hfired := count_set_of_getElem? (l := s.st) (p := p) (x := .pending) (a := .fired) (b := .fired) hst
      simp at hpend hfired
      have hpos := count_pos_of_getElem? hst
      have hpart := count_partition s.st
      have hlen := ha.st_len op rest ht hin
      simp only [doFire, State.setWord]
      (repeat' split) <;> inv_auto

structure Inv (w : Workload) (s : State) : Prop where
  a : InvA w s
  b : InvB w s
  c : InvC w s

theorem inv_init (w : Workload) : Inv w (init w) := ⟨invA_init w, invB_init w, invC_init w⟩

theorem inv_step {w s l s'} (hwf : w.WF) (hi : Inv w s) (hs : Step s l s') : Inv w s' :=
  ⟨invA_step hwf hi.a hi.b hs, invB_step hwf hi.a hi.b hi.c hs, invC_step hwf hi.a hi.b hi.c hs⟩

theorem inv_reachable {w s} (hwf : w.WF) (h : Reachable w s) : Inv w s := by
  induction h with
  | init => exact inv_init w
  | step _ hs ih => exact inv_step hwf ih hs

end Yaclib.Coro
