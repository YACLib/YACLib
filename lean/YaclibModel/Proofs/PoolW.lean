/- C08: work conservation.  While a worker sleeps, every queued job is covered by a wake-up that is already on its
   way and does not depend on any job body returning: a worker that has just started / has left the wait queue /
   holds the mutex, or a `notify_one` that a Submit still has to issue.
   (Workers that are inside a Call do NOT count: a job may wait for a job that is still queued.) -/
import YaclibModel.Proofs.Pool
namespace Yaclib.Pool
open Yaclib.Extracted.PoolConsts

/-- the worker is on its way to the queue and no client code stands between it and the queue -/
def WPc.heading : WPc → Bool
  | .start => true | .woken => true | .held _ => true | _ => false

structure InvW (s : State) : Prop where
  conserve : WPc.parked ∈ s.workers →
    s.queue.length ≤ s.workers.countP WPc.heading + s.subs.countP Sub.isNotifying

theorem invW_init (w : Workload) : InvW (init w) := by
  constructor
  intro _; simp [init]

namespace Auto
attribute [scoped grind →] InvW.conserve
attribute [scoped grind] WPc.heading
end Auto
open Auto

theorem invW_step {s l s'} (hi : InvW s) (hs : Step s l s') : InvW s' := by
  cases hs with
  | sBegin i sb h hpc hk => pool_close
  | sLock i sb h hpc hl => pool_close
  | sAccept i sb h hpc hw => pool_close
  | sReject i sb h hpc hw => pool_close
  | sDrop i sb h hpc => pool_close
  | sNotifyNone i sb h hpc hn => pool_close
  | sNotifyOne i sb v h hpc hv => pool_close
  | wLock i pc h hpc hl => rcases hpc with rfl | rfl <;> pool_close
  | wRelock i h hl => pool_close
  | wCall i j h => pool_close
  | wSpurious i h => pool_close
  | wNotifyAll i h =>
      have hnp := parked_not_mem_wake (s.workers.set i .exited)
      constructor; intro hp; simp only [doWNotifyAll] at hp; exact absurd hp hnp
  | wPop i b j rest h hq => pool_close
  | wStop i b h hq hc => pool_close
  | wExit i b h hq hc hw => pool_close
  | wWait i b h hq hc hw => pool_close
  | xBegin k h hk => pool_close
  | xLock h hl => pool_close
  | xStop h hk => pool_close
  | xSoftNow h hk hn => pool_close
  | xSoftWant h hk hn => pool_close
  | xHard h hk => pool_close
  | xNotifyAll h =>
      have hnp := parked_not_mem_wake s.workers
      constructor; intro hp; simp only [doXNotifyAll] at hp; exact absurd hp hnp
  | xDrop j rest h => pool_close
  | waitRet h hr => pool_close

theorem invW_reachable {w s} (h : Reachable w s) : InvW s := by
  induction h with
  | init => exact invW_init w
  | step _ hs ih => exact invW_step ih hs

end Yaclib.Pool
