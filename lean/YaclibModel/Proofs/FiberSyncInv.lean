/- C18: the invariant of `Mx` holds in every reachable state -/
import YaclibModel.Proofs.FiberSync
namespace Yaclib.FiberSync.Mx
open Yaclib.FiberSync Auto

theorem inv_step {k s l s'} (hi : Inv k s) (hs : Step s l s') : Inv k s' := by
  cases hs with
  | lockStart f h => mx_auto
  | lockAcq f k h ho => mx_auto
  | lockPark f k h ho => mx_auto
  | tryOk f h ho => mx_auto
  | tryFail f h ho => mx_auto
  | unlock f w h hh hw => cases w <;> mx_auto
  | tlfFast f hk h ho => mx_auto
  | tlfPark f t d j hk h ho ht => mx_auto
  | tlfRecheckAcq f req hk h ho => mx_auto
  | tlfRepark f req j hk h ho => mx_auto
  | tlfTimeout f t req dl hk h hd ht => mx_auto
  | cvWait f w h hh hw => cases w <;> mx_auto
  | cvWaitFor f w t d j h hh hw ht => cases w <;> mx_auto
  | cvWaitUntil f w t req j h hh hw ht => cases w <;> mx_auto
  | cvTimeout f t req dl h hd ht => mx_auto
  | notifyOne f w h hw => cases w <;> mx_auto
  | notifyAll f h => mx_auto
  | sleepStart f t d h ht => mx_auto
  | sleepWake f t dl h hd ht => mx_auto
  | finish f h => mx_auto

theorem inv_reachable {k n s} (h : Reachable k n s) : Inv k s := by
  induction h with
  | init => exact inv_init k n
  | step _ hs ih => exact inv_step ih hs

end Yaclib.FiberSync.Mx
