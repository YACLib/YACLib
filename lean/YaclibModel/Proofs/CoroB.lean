/- preservation of InvB: the awaited words and the status list of the current awaiter -/
import YaclibModel.Proofs.Coro
namespace Yaclib.Coro
open Auto AutoB
attribute [local grind] inOp decided regPos freshPc afterRegPc Word.cbs Word.isResult obsOk isMulti awaitsCells

theorem mem_replicate_todo {n : Nat} {x : CbSt} (h : x ∈ List.replicate n CbSt.todo) : x = .todo :=
  List.eq_of_mem_replicate h

theorem emptyBased_single {k : AKind} (h : emptyBased k = true) : awaitsCells k = true ∧ isMulti k = false := by
  cases k <;> simp_all [emptyBased, awaitsCells, isMulti]

/-- the end of a SetCallback (or the start of the registration loop): if the words and the status list are as InvB wants them
    at `.reg q`, whether or not there is a `q`-th awaited object, they are as it wants them where the awaiter goes on from there -/
theorem invB_regFrom {w s op rest q} (hb : InvB w s) (hq : s.pc = .reg q) (ht : s.todo = op :: rest)
    (hlen : s.st.length = op.cells.length) (hns : isMulti op.kind = false → op.cells.length = 1) :
    InvB w (regFrom s op q) := by
  have hph := fun i x => hb.reg_phase q i x (by rw [hq]; rfl)
  simp only [regFrom, afterReg]
  split
  · rw [← hq]; exact hb
  · split
    · inv_auto
    · split
      · inv_auto
      · have hnp : ∀ (i : Nat), s.st[i]? ≠ some CbSt.pending := by grind
        have hall := all_result_of_settled hlen (by grind) hnp
          (fun p j hp hs => hb.settled_res op rest p j ht (by rw [hq]; rfl) hp hs)
        inv_auto

theorem invB_start {w s op rest} (hwf : w.WF) (ha : InvA w s) (hb : InvB w s) (h : s.pc = .idle) (ht : s.todo = op :: rest) :
    InvB w (doStart s op) := by
  have hwfo := op_wf hwf ha ht
  have h1 := wf_nocells hwfo
  have h2 := wf_single hwfo
  have hno := no_cbs_of_not_inop hb (by rw [h]; rfl)
  -- nothing is registered and every status is `todo`: InvB holds at whichever first position the awaiter has
  have key : ∀ pc' ex c, (pc' = .rdy ∨ pc' = .reg 0 ∨ pc' = .tstore ∨ ((∃ e, pc' = .subm e) ∨ pc' = .curr) ∧ op.cells = []) →
      InvB w { s with st := List.replicate op.cells.length .todo, ex0 := s.exec, exec := ex, cnt := c, pc := pc' } := by
    rintro pc' ex c (rfl | rfl | rfl | ⟨⟨e, rfl⟩ | rfl, hc⟩) <;> inv_auto
  rcases hk : op.kind with _ | _ | _ | _ | _ | _ | _ | _ | _ <;> simp only [doStart, hk]
  case single | sticky => exact key _ _ _ (.inl rfl)
  case on | multi | multiSticky | multiOn =>
    exact (invB_regFrom (key _ _ _ (.inr (.inl rfl))) rfl ht (by simp) (h2 (by rw [hk]; rfl)) :)
  case task => exact key _ _ _ (.inr (.inr (.inl rfl)))
  case resched => exact key _ _ _ (.inr (.inr (.inr ⟨.inl ⟨_, rfl⟩, h1 (by rw [hk]; rfl)⟩)))
  case current => exact key _ _ _ (.inr (.inr (.inr ⟨.inr rfl, h1 (by rw [hk]; rfl)⟩)))

/-- a unique word that is not empty while I am registering on it holds the result: nobody else may attach to it, and my
    own callbacks of this awaiter sit on other objects -/
theorem unique_nonempty_result {w : Workload} {s : State} {op : Op} {rest : List Op} {p j : Nat}
    (hwf : w.WF) (ha : InvA w s) (hb : InvB w s) (ht : s.todo = op :: rest) (hp : regPos s.pc = some p)
    (hj : op.cells[p]? = some j) (hsh : (w.cell j).shared = false) (hne : s.word j ≠ .open [] false) :
    (s.word j).isResult = true := by
  cases hword : s.word j with
  | result walk => rfl
  | «open» l f =>
      exfalso
      cases f with
      | true =>
          have := hb.foreign_unsafe j l hword
          simp [Workload.unsafeCell, hsh] at this
      | false =>
          cases l with
          | nil => exact hne hword
          | cons q l' =>
              have hq : q ∈ (s.word j).cbs := by rw [hword]; simp [Word.cbs]
              have hc := hb.cbs_cell j q op rest hq ht
              have hph := hb.reg_phase p q .pending hp hc.2
              have hqp : q = p := wf_inj (op_wf hwf ha ht) hc.1 hj
              subst hqp
              simp at hph

theorem st_at_reg {w : Workload} {s : State} {op : Op} {rest : List Op} {p : Nat}
    (ha : InvA w s) (hb : InvB w s) (ht : s.todo = op :: rest) (hp : regPos s.pc = some p) :
    s.st[p]? = some .todo ∧ p < op.cells.length ∧ inOp s.pc = true ∧ regKind op.kind = true := by
  have hpk := ha.pc_kind op rest ht
  have hin : inOp s.pc = true := by
    cases hpc : s.pc <;> simp_all [regPos, inOp]
  have hlen := ha.st_len op rest ht hin
  have hpl : p < op.cells.length ∧ regKind op.kind = true := by
    cases hpc : s.pc <;> simp_all [regPos, pcKindOk]
  have hps : p < s.st.length := by omega
  refine ⟨?_, hpl.1, hin, hpl.2⟩
  have hx : s.st[p]? = some s.st[p] := List.getElem?_eq_getElem hps
  have := hb.reg_phase p p s.st[p] hp hx
  rw [hx, this.mpr (Nat.le_refl p)]

theorem setWord_pc (s : State) (j : Nat) (wd : Word) : (s.setWord j wd).pc = s.pc := rfl
theorem setWord_todo (s : State) (j : Nat) (wd : Word) : (s.setWord j wd).todo = s.todo := rfl
theorem setWord_st (s : State) (j : Nat) (wd : Word) : (s.setWord j wd).st = s.st := rfl
theorem setWord_todo' (s : State) (j : Nat) (wd : Word) : (s.setWord j wd).todo = s.todo := rfl
theorem setWord_w' (s : State) (j : Nat) (wd : Word) : (s.setWord j wd).w = s.w := rfl

/-- SetCallback returned false for the p-th awaited object, which is complete -/
theorem invB_regFail {w : Workload} {s : State} {op : Op} {rest : List Op} {p j : Nat}
    (hwf : w.WF) (ha : InvA w s) (hb : InvB w s) (ht : s.todo = op :: rest) (hp : regPos s.pc = some p)
    (hj : op.cells[p]? = some j) (hres : (s.word j).isResult = true) : InvB w (regFail s op p) := by
  obtain ⟨hst, hpl, hin, hrk⟩ := st_at_reg ha hb ht hp
  have hlen := ha.st_len op rest ht hin
  have hb1 : InvB w { s with st := s.st.set p .failed, pc := .reg (p + 1) } := by inv_auto
  exact (invB_regFrom hb1 rfl ht (by simpa using hlen) (wf_single (op_wf hwf ha ht) (awaitsCells_of_regKind hrk)) :)

theorem invB_casOk {w : Workload} {s : State} {op : Op} {rest : List Op} {p j : Nat} {l : List Nat} {f : Bool}
    (hwf : w.WF) (ha : InvA w s) (hb : InvB w s) (ht : s.todo = op :: rest) (hp : regPos s.pc = some p)
    (hj : op.cells[p]? = some j) (hw : s.word j = .open l f) : InvB w (doCasOk s op p j l f) := by
  obtain ⟨hst, hpl, hin, hrk⟩ := st_at_reg ha hb ht hp
  have hwfo := op_wf hwf ha ht
  have hlen := ha.st_len op rest ht hin
  have hpl' : p ∉ l := by
    intro hm
    have hq : p ∈ (s.word j).cbs := by rw [hw]; exact hm
    have := (hb.cbs_cell j p op rest hq ht).2
    rw [hst] at this; cases this
  have hnd : (p :: l).Nodup := by
    have := hb.nodup j; rw [hw] at this
    exact List.nodup_cons.mpr ⟨hpl', this⟩
  cases hm : isMulti op.kind with
  | true =>
      have hb1 : InvB w { s.setWord j (.open (p :: l) f) with st := s.st.set p .pending, pc := .reg (p + 1) } := by inv_auto
      exact (invB_regFrom hb1 rfl ht (by simpa using hlen) (by simp [hm]) :)
  | false =>
      -- a single awaiter suspends at once; `.reg 1` with its callback registered is not a state InvB allows (`cbs_single`)
      have hn1 := wf_single hwfo (awaitsCells_of_regKind hrk) hm
      obtain rfl : p = 0 := by omega
      have h0 : (s.st.set 0 .pending)[0]? = some .pending := by simp [show 0 < s.st.length by omega]
      simp only [doCasOk, regFrom, afterReg, hn1, hm, h0, Nat.lt_irrefl, ↓reduceIte, Bool.false_eq_true]
      inv_auto

theorem obs_empty_iff {wd : Word} : wd.obs = .empty ↔ wd = .open [] false := by
  cases wd with
  | result l => simp [Word.obs]
  | «open» l f => cases l <;> cases f <;> simp [Word.obs]

theorem decided_facts {pc : CPc} (h : decided pc = true) :
    regPos pc = none ∧ freshPc pc = false ∧ afterRegPc pc = false ∧ inOp pc = true ∧ pc ≠ .susp ∧ (∀ x, pc ≠ .rdyL x) := by
  cases pc <;> simp_all [decided, regPos, freshPc, afterRegPc, inOp]

/-- InvB of a state in which the awaiter has decided: none of my callbacks is registered, nothing is pending, everything
    awaited is complete -/
theorem invB_of_decided {w : Workload} {s : State}
    (hfu : ∀ j l, s.word j = .open l true → w.unsafeCell j = true)
    (hno : ∀ j p, p ∉ (s.word j).cbs) (hdec : decided s.pc = true)
    (hnp : ∀ (q : Nat), s.st[q]? ≠ some CbSt.pending)
    (hall : ∀ op rest j, s.todo = op :: rest → j ∈ op.cells → (s.word j).isResult = true)
    (hwc : ∀ j, s.pc = .wake (.cell j) → ∀ op rest, s.todo = op :: rest → j ∈ op.cells) : InvB w s := by
  obtain ⟨h1, h2, h3, h4, h5, h6⟩ := decided_facts hdec
  constructor
  · exact hfu
  · intro j
    have : (s.word j).cbs = [] := List.eq_nil_iff_forall_not_mem.mpr (hno j)
    rw [this]; exact List.nodup_nil
  · intro j p hp; exact absurd hp (hno j p)
  · intro j p op rest hp; exact absurd hp (hno j p)
  · intro j p op rest hp; exact absurd hp (hno j p)
  · intro op rest p j _ _ _ hs; exact absurd hs (hnp p)
  · intro op rest p j ht _ hc _; exact hall op rest j ht (List.mem_iff_getElem?.mpr ⟨p, hc⟩)
  · intro p q x hp; rw [h1] at hp; cases hp
  · intro hf; rw [h2] at hf; cases hf
  · intro hf; rw [h3] at hf; cases hf
  · intro _; exact hnp
  · intro _; exact hall
  · intro hp; exact absurd hp (h6 _)
  · intro hp; exact absurd hp h5
  · exact hwc

/-- after the registration loop, once nothing is pending, the awaiter decides: everything it awaits is complete -/
theorem invB_settled {w s} (pc' : CPc) (c : Nat) (ha : InvA w s) (hb : InvB w s) (har : afterRegPc s.pc = true)
    (hnp : ∀ (q : Nat), s.st[q]? ≠ some CbSt.pending) (hdec : decided pc' = true) (hwc : ∀ j, pc' ≠ .wake (.cell j)) :
    InvB w { s with pc := pc', cnt := c } := by
  have hin : inOp s.pc = true := by cases hpc : s.pc <;> simp_all [afterRegPc, inOp]
  have hno := no_cbs_of_no_pending ha hb hnp
  exact invB_of_decided hb.foreign_unsafe hno hdec hnp
    (fun op rest j ht hj => all_result_of_settled (ha.st_len op rest ht hin) (hb.no_todo har) hnp
      (fun p j hp hs => hb.settled_res op rest p j ht hin hp hs) j hj) (fun j hj => absurd hj (hwc j))

theorem count_pos_of_getElem? {l : List CbSt} {p : Nat} {x : CbSt} (h : l[p]? = some x) : 0 < l.count x :=
  List.count_pos_iff.mpr (mem_of_getElem? h)

/-- what is known when a callback of mine is about to be run -/
theorem fire_pre {w : Workload} {s : State} {op : Op} {rest : List Op} {j p : Nat} {walk : List Nat}
    (hwf : w.WF) (ha : InvA w s) (hb : InvB w s) (hc : InvC w s) (ht : s.todo = op :: rest)
    (hw : s.word j = .result walk) (hp : p ∈ walk) :
    op.cells[p]? = some j ∧ s.st[p]? = some .pending ∧ inOp s.pc = true ∧ decided s.pc = false ∧ awaitsCells op.kind = true ∧
    (isMulti op.kind = false → s.pc = .susp ∧ op.cells.length = 1 ∧ p = 0 ∧ (counted op.kind = true → s.cnt = 1)) ∧
    (isMulti op.kind = true → s.cnt = 1 → s.pc = .susp ∧ s.st.count .pending = 1) := by
  have hpc : p ∈ (s.word j).cbs := by rw [hw]; exact hp
  obtain ⟨hcell, hst⟩ := hb.cbs_cell j p op rest hpc ht
  obtain ⟨hin, hnd⟩ := hb.cbs_inop j p hpc
  have hwfo := op_wf hwf ha ht
  have hpl := lt_of_getElem?_some hcell
  have haw : awaitsCells op.kind = true := by
    cases hk : awaitsCells op.kind with
    | true => rfl
    | false => have := wf_nocells hwfo hk; rw [this] at hpl; simp at hpl
  refine ⟨hcell, hst, hin, hnd, haw, ?_, ?_⟩
  · intro hm
    have hs := hb.cbs_single j p op rest hpc ht hm
    have hn1 := wf_single hwfo haw hm
    refine ⟨hs, hn1, by omega, ?_⟩
    intro hcnt
    exact hc.on_cnt op rest ht hcnt hm hin hnd
  · intro hm h1
    have hpos := count_pos_of_getElem? hst
    have hpart := count_partition s.st
    have hlen := ha.st_len op rest ht hin
    cases hpcv : s.pc with
    | susp => exact ⟨rfl, by have := (hc.multi_susp op rest ht hm hpcv).1; omega⟩
    | reg q => have := hc.multi_reg op rest ht hm (Or.inl (by rw [hpcv]; simp [regPos])); omega
    | cas q => have := hc.multi_reg op rest ht hm (Or.inl (by rw [hpcv]; simp [regPos])); omega
    | msub => have := hc.multi_reg op rest ht hm (Or.inr hpcv); omega
    | mld => have := hc.multi_mid op rest ht (Or.inl hpcv); omega
    | msusp => have := hc.multi_mid op rest ht (Or.inr (Or.inl hpcv)); omega
    | mrd v => have := hc.multi_mid op rest ht (Or.inr (Or.inr ⟨v, hpcv⟩)); omega
    | rdy => have := hb.fresh (by rw [hpcv]; rfl) p _ hst; cases this
    | rdyL x => have := hb.fresh (by rw [hpcv]; rfl) p _ hst; cases this
    | tstore => have := hb.fresh (by rw [hpcv]; rfl) p _ hst; cases this
    | idle => rw [hpcv] at hin; cases hin
    | fin => rw [hpcv] at hin; cases hin
    | done => rw [hpcv] at hin; cases hin
    | gone => rw [hpcv] at hin; cases hin
    | curr => rw [hpcv] at hnd; cases hnd
    | subm e => rw [hpcv] at hnd; cases hnd
    | queued e => rw [hpcv] at hnd; cases hnd
    | wake c => rw [hpcv] at hnd; cases hnd

theorem mem_erase_ne {l : List Nat} (hnd : l.Nodup) {a b : Nat} (h : a ∈ l.erase b) : a ≠ b ∧ a ∈ l :=
  (List.Nodup.mem_erase_iff hnd).mp h

theorem mem_erase_of_ne' {l : List Nat} {a b : Nat} (h : a ∈ l) (hne : a ≠ b) : a ∈ l.erase b :=
  (List.mem_erase_of_ne hne).mpr h

attribute [local grind →] mem_erase_ne
attribute [local grind .] mem_erase_of_ne' List.Nodup.erase

/-- a callback of a multi awaiter that does not complete it: the program position stays -/
theorem invB_fire_more {w s op rest j p walk} (c : Nat) (hb : InvB w s) (ht : s.todo = op :: rest)
    (hw : s.word j = .result walk) (hp : p ∈ walk) (hm : isMulti op.kind = true) :
    InvB w { s.setWord j (.result (walk.erase p)) with st := s.st.set p .fired, cnt := c } := by
  have hp' : p ∈ (s.word j).cbs := by rw [hw]; exact hp
  have hcs := hb.cbs_cell j p op rest hp' ht
  have hwnd : walk.Nodup := by have := hb.nodup j; rw [hw] at this; exact this
  inv_auto

theorem counted_of_isMulti {k : AKind} (h : isMulti k = true) : counted k = true := by
  cases k <;> simp_all [isMulti, counted]

/-- the callback that completes the awaiter: afterwards nothing is pending, none of my callbacks is registered anywhere and
    everything awaited is complete -/
theorem invB_fire_last {w s op rest j p walk} (c : Nat) (hwf : w.WF) (ha : InvA w s) (hb : InvB w s) (hc : InvC w s)
    (ht : s.todo = op :: rest) (hw : s.word j = .result walk) (hp : p ∈ walk) (hlast : counted op.kind = false ∨ s.cnt = 1) :
    InvB w { s.setWord j (.result (walk.erase p)) with st := s.st.set p .fired, cnt := c, pc := cbDone op.kind j s.exec } := by
  obtain ⟨hcell, hst, hin, _, _, hsingle, hmulti⟩ := fire_pre hwf ha hb hc ht hw hp
  have hlen := ha.st_len op rest ht hin
  have hwnd : walk.Nodup := by have := hb.nodup j; rw [hw] at this; exact this
  -- `p` is the only pending position
  have hsusp : s.pc = .susp ∧ s.st.count .pending = 1 := by
    cases hm : isMulti op.kind with
    | false =>
        obtain ⟨hs, hn1, hp0, _⟩ := hsingle hm
        refine ⟨hs, ?_⟩
        match hs : s.st, hlen.trans hn1, hp0 ▸ hst with
        | [a], _, h0 => simp at h0; simp [h0]
    | true => exact hmulti hm (hlast.resolve_left (by simp [counted_of_isMulti hm]))
  have hnp : ∀ (q : Nat), (s.st.set p CbSt.fired)[q]? ≠ some CbSt.pending := by
    apply forall_ne_of_count_eq_zero
    have := count_set_of_getElem? (l := s.st) (p := p) (x := .pending) (a := .fired) (b := .pending) hst
    simp at this; omega
  have hnt : ∀ (q : Nat), (s.st.set p CbSt.fired)[q]? ≠ some CbSt.todo := by
    intro q hq
    have := hb.no_todo (by rw [hsusp.1]; rfl) q
    grind
  have hall : ∀ j', j' ∈ op.cells → ((s.setWord j (.result (walk.erase p))).word j').isResult = true := by
    apply all_result_of_settled (st := s.st.set p .fired) (by rw [List.length_set]; exact hlen) hnt hnp
    intro q j' hq hs
    have := hb.settled_res op rest q j' ht hin hq
    grind
  apply invB_of_decided
  · intro j' l'
    simp only [State.word, State.setWord, upd]
    have := hb.foreign_unsafe j' l'
    grind
  · -- a callback still registered would be pending, at another position than `p`: on `j` since `walk` has no duplicates,
    -- elsewhere since position `p` awaits `j`
    intro j' p'
    simp only [State.word, State.setWord, upd]
    have := hb.cbs_cell j' p' op rest
    have := hnp p'
    grind
  · exact cbDone_decided _ _ _
  · exact hnp
  · intro op' rest' j' ht' hj'
    cases ht.symm.trans ht'
    exact hall j' hj'
  · intro j' hj' op' rest' ht'
    cases ht.symm.trans ht'
    rw [cbDone_cell _ _ _ _ hj']; exact List.mem_iff_getElem?.mpr ⟨p, hcell⟩

theorem invB_fire {w s op rest j p walk} (hwf : w.WF) (ha : InvA w s) (hb : InvB w s) (hc : InvC w s)
    (ht : s.todo = op :: rest) (hw : s.word j = .result walk) (hp : p ∈ walk) : InvB w (doFire s op j p walk) := by
  simp only [doFire]
  split
  · rename_i hcn
    split
    · rename_i h1
      exact invB_fire_last _ hwf ha hb hc ht hw hp (Or.inr h1)
    · -- the counter stays above 0, so this is a multi awaiter; the program position does not change
      rename_i hc1
      have hm : isMulti op.kind = true := by
        cases hm : isMulti op.kind with
        | true => rfl
        | false => exact absurd (((fire_pre hwf ha hb hc ht hw hp).2.2.2.2.2.1 hm).2.2.2 hcn) hc1
      exact invB_fire_more _ hb ht hw hp hm
  · rename_i hcn
    exact invB_fire_last s.cnt hwf ha hb hc ht hw hp (Or.inl (by simpa using hcn))

theorem invB_step {w s l s'} (hwf : w.WF) (ha : InvA w s) (hb : InvB w s) (hc : InvC w s) (hs : Step s l s') : InvB w s' := by
  cases hs with
  | pXchg j l f hw hl => inv_auto
  | envPush j l f hw hu => have := ha.hw; inv_auto
  | envSwap j e hu => inv_auto
  | exCall e h => inv_auto
  | exDrop e h => inv_auto
  | ldtor h hl => inv_auto
  | ret h ht => inv_auto
  | publish r h hr hl => inv_auto
  | fdtor h hl => inv_auto
  | rdLoad op rest j x h ht hj hx => inv_auto
  | mload v h hv => inv_auto
  | submit e h => inv_auto
  | current op rest h ht => inv_auto
  | tdtor j h hl hr => inv_auto
  | start op rest h ht => exact invB_start hwf ha hb h ht
  | regLoad op rest p j x h ht hj hx =>
      have hp : regPos s.pc = some p := by rw [h]; rfl
      have hw := ha.hw
      simp only [doRegLoad]
      split
      · inv_auto
      · rename_i hg
        apply invB_regFail hwf ha hb ht hp hj
        rw [hw] at hg
        cases hsh : (w.cell j).shared
        · -- unique: the load did not return kEmpty
          apply unique_nonempty_result hwf ha hb ht hp hj hsh
          intro he
          cases x with
          | empty => simp [loadGoesOn, hsh] at hg
          | cbs => have h1 : (s.word j).obs ≠ .empty := hx
                   rw [he] at h1; simp [Word.obs] at h1
          | result => have h1 : (s.word j).isResult = true := hx
                      rw [he] at h1; cases h1
        · cases x with
          | empty => simp [loadGoesOn, hsh] at hg
          | cbs => simp [loadGoesOn, hsh] at hg
          | result => exact hx
  | casOk op rest p j l f h ht hj hw hu => exact invB_casOk hwf ha hb ht (by rw [h]; rfl) hj hw
  | casRetry op rest p j h ht hj hw hu => exact hb
  | casFail op rest p j h ht hj hw' =>
      have hp : regPos s.pc = some p := by rw [h]; rfl
      apply invB_regFail hwf ha hb ht hp hj
      rw [ha.hw] at hw'
      rcases hw' with ⟨_, hr⟩ | ⟨hsh, hne⟩
      · exact hr
      · exact unique_nonempty_result hwf ha hb ht hp hj hsh hne
  | ready x h =>
      cases hbv : awaitReady x
      · simp only [doReady, Bool.false_eq_true, ↓reduceIte]
        inv_auto
      · -- ready: the word was `result` when it was loaded, and stays so
        cases awaitReady_true hbv
        simp only [doReady, ↓reduceIte]
        have hall : ∀ op rest j, s.todo = op :: rest → j ∈ op.cells → (s.word j).isResult = true := by
          intro op rest j ht hj
          have hpk := ha.pc_kind op rest ht
          rw [h] at hpk
          simp only [pcKindOk, Bool.and_eq_true, decide_eq_true_eq] at hpk
          have hes := emptyBased_single hpk.1
          have hlen := wf_single (op_wf hwf ha ht) hes.1 hes.2
          obtain ⟨q, hq⟩ := List.mem_iff_getElem?.mp hj
          obtain rfl : q = 0 := by have := lt_of_getElem?_some hq; omega
          exact hb.rdy_res h op rest j ht hq
        have hno := no_cbs_of_fresh ha hb (by rw [h]; rfl)
        have hf := hb.fresh (by rw [h]; rfl)
        exact invB_of_decided hb.foreign_unsafe hno rfl (fun q hq => by cases hf q _ hq) hall (by simp)
  | mready v h =>
      cases hbv : decide (v = 1)
      · simp only [doMReady, Bool.false_eq_true, ↓reduceIte]
        inv_auto
      · cases (by simpa using hbv : v = 1)
        simp only [doMReady, ↓reduceIte]
        -- the counter read 1: only the coroutine's own unit is left, nothing is pending
        have hle := hc.mrd_le 1 h
        obtain ⟨op, rest, ht⟩ := todo_cons_of_inop ha (by rw [h]; rfl)
        have hmid := hc.multi_mid op rest ht (Or.inr (Or.inr ⟨1, h⟩))
        exact invB_settled _ s.cnt ha hb (by rw [h]; rfl) (forall_ne_of_count_eq_zero (by omega)) rfl (by simp)
  | msub op rest h ht => inv_auto
  | msuspend op rest h ht =>
      have hm : isMulti op.kind = true := by have := ha.pc_kind op rest ht; rw [h] at this; exact this
      simp only [doMsuspend]
      split
      · -- the coroutine's own SubEqual(1) was the last decrement: nothing is pending any more
        have hmid := hc.multi_mid op rest ht (Or.inr (Or.inl h))
        exact invB_settled _ _ ha hb (by rw [h]; rfl) (forall_ne_of_count_eq_zero (by omega)) (selfDone_decided _)
          (selfDone_not_cell _)
      · inv_auto
  | tstore op rest j h ht hj =>
      have hpk := ha.pc_kind op rest ht
      rw [h] at hpk
      have hk : op.kind = .task := by simpa [pcKindOk] using hpk
      have hn1 := wf_single (op_wf hwf ha ht) (by rw [hk]; rfl) (by rw [hk]; rfl)
      have hlen := ha.st_len op rest ht (by rw [h]; rfl)
      have hno := no_cbs_of_fresh ha hb (by rw [h]; rfl)
      inv_auto
  | resume op rest c h ht =>
      have hno := no_cbs_of_decided hb (by rw [h]; rfl)
      inv_auto
  | fire op rest j p walk ht hw hp => exact invB_fire hwf ha hb hc ht hw hp

end Yaclib.Coro
