/- One walk over the pipeline interpreter.  Every invariant of the ghost state (accounting, allocation bound, job log,
   termination measure) is proved along the mutual recursion of `callStep` / `runSteps` over the program text.  `Closed`
   lists what such an invariant has to say about the interpreter's single moves; `Closed.callStep_post` /
   `Closed.runSteps_post` do the recursion once, and the `_post` lemmas after them carry it to a started source
   (`afterStart`), a started Task and a resumed thread (`andThen`).  `run_client` is the same service one level up: a
   relation between the state and the client's view of its program, along every list of events. -/
import YaclibModel.Proofs.PipelineBase

namespace Yaclib.Pipeline
open Yaclib.Extracted

/-- a started source followed by its continuations: what `callStep` does with the inner pipeline its functor built, and
    what `started` does at client level -/
def afterStart (cfg : Cfg) (steps : List Step) (hd flow : Bool) (ctx : Option Nat) : Started → Out
  | .go r inh c g => runSteps cfg steps hd flow (if flow then c else ctx) r inh g
  | .wait w inh g => .parked ⟨w, inh, steps, []⟩ g
  | .crash g => .crash g

theorem started_eq (cfg : Cfg) (st : State) (steps : List Step) (hd flow : Bool) (s : Started) :
    started cfg st steps hd flow s = settle st (afterStart cfg steps hd flow none s) := by
  cases s <;> rfl

/-- the ghost state in which the source of an inner pipeline starts: its cores and functors are allocated; a Task is
    entered only after the outer step released its caller and functor -/
def innerG (ty : Nat) (src : Src) (lazy : Bool) (steps : List Step) (g : G) : G :=
  let g2 := (g.allocCore (srcCores src + steps.length)).allocFunctor (srcFunctors src + steps.length)
  if lazy then asyncRetAcct ty g2 else g2

/-- an invoked functor that builds a pipeline: the outer step is an `asyncFinish` around that pipeline's own run -/
theorem callStep_async (cfg : Cfg) (id : Nat) (sig : Sig) (mode : Mode) (src : Src) (lazy : Bool) (steps k : List Step)
    (hd dropped : Bool) (ctx : Option Nat) (via : Option Exec) (input0 : R) (own : Exec) (g : G)
    (h : route sig (passesUnit (stepType mode hd) dropped sig) (Dispatch.isRun (stepType mode hd))
      (seenInput (stepType mode hd) dropped input0) = .call) :
    callStep cfg (.mk id sig mode (.async src lazy steps)) k hd dropped ctx via input0 own g =
      asyncFinish (stepType mode hd) own k lazy ctx (afterStart cfg steps (src == .unit) lazy ctx
        (startSrc cfg src ctx (innerG (stepType mode hd) src lazy steps (g.invoke id ctx via)))) := by
  rw [callStep.eq_def]
  simp only [h, enterHere_eq, innerG]
  cases lazy <;> simp only [Bool.false_eq_true, ite_false, ite_true] <;> split <;>
    simp [asyncFinish, afterStart, *]

/-- A family of statements about the interpreter, indexed by `P` (the bounds or balances a statement speaks of), that is
    closed under the interpreter's moves.  `Run` / `Call` / `Start` are what holds when `runSteps` / `callStep` / the
    source of an inner pipeline is entered, `Post p k` what holds of the outcome when the continuations `k` behind the
    step have not been taken along. -/
structure Closed (cfg : Cfg) (P : Type) where
  Run : P → List Step → Bool → G → Prop
  Call : P → Step → List Step → Bool → Option Exec → Option Nat → G → Prop
  Start : P → Src → List Step → G → Prop
  Post : P → List Step → Out → Prop
  nil : ∀ {p hd g} r inh ctx, Run p [] hd g → Post p [] (.done r inh ctx g)
  /-- a finished step hands on to the continuations behind it; a suspended or crashed one is the outcome of the chain -/
  next : ∀ {p ss o}, Post p ss o →
    match o with
    | .done _ _ _ g => Run p ss false g
    | o => Post p [] o
  direct : ∀ {p s ss hd g} ctx, Run p (s :: ss) hd g → Call p s ss hd none ctx g
  sub : ∀ {p s ss hd g} own ctx r, Run p (s :: ss) hd g →
    match submit cfg own ctx g with
    | .callNow c g' => Call p s ss hd (some own) c g'
    | .dropNow c g' => Call p s ss hd (some own) c g'
    | .queued jid j g' => Post p [] (.parked ⟨.job jid j (.step s r hd), own, ss, []⟩ g')
  invoke : ∀ {p id sig mode beh k hd via ctx g}, Call p (.mk id sig mode beh) k hd via ctx g →
    Call p (.mk id sig mode beh) k hd via ctx (g.invoke id ctx via)
  done : ∀ {p id sig mode beh k hd via ctx g} r own b, Call p (.mk id sig mode beh) k hd via ctx g →
    Post p k (.done r own ctx (doneAcct (stepType mode hd) b g))
  /-- the inner pipeline is walked under an index of its own, from which `asyncFinish` leads back -/
  async : ∀ {p id sig mode src lazy steps k hd via ctx g} own,
    Call p (.mk id sig mode (.async src lazy steps)) k hd via ctx g →
    ∃ p', Start p' src steps (innerG (stepType mode hd) src lazy steps g) ∧
      ∀ o, Post p' [] o → Post p k (asyncFinish (stepType mode hd) own k lazy ctx o)
  start : ∀ {p src steps g} ctx, Start p src steps g →
    match startSrc cfg src ctx g with
    | .go _ _ _ g' => Run p steps (src == .unit) g'
    | .wait w inh g' => Post p [] (.parked ⟨w, inh, steps, []⟩ g')
    | .crash g' => Post p [] (.crash g')
  /-- the ReadyCore at the head of a Task is submitted like a step -/
  ready : ∀ {p r steps g} e ctx, Start p (.ready r) steps g →
    match submit cfg e ctx g with
    | .callNow _ g' => Run p steps false g'
    | .dropNow _ g' => Run p steps false g'
    | .queued jid j g' => Post p [] (.parked ⟨.job jid j (.readyHead r), e, steps, []⟩ g')

mutual
  theorem Closed.callStep_post {cfg : Cfg} {P : Type} (C : Closed cfg P) :
      ∀ (s : Step) (k : List Step) (hd dropped : Bool) (ctx : Option Nat) (via : Option Exec) (input0 : R) (own : Exec)
        (g : G) (p : P), C.Call p s k hd via ctx g → C.Post p k (callStep cfg s k hd dropped ctx via input0 own g)
    | .mk id sig mode beh, k, hd, dropped, ctx, via, input0, own, g, p, hc => by
      cases hact : route sig (passesUnit (stepType mode hd) dropped sig) (Dispatch.isRun (stepType mode hd))
          (seenInput (stepType mode hd) dropped input0) with
      | call =>
        have hi := C.invoke hc
        cases beh with
        | async src lazy steps =>
          obtain ⟨p', hs, hfin⟩ := C.async own hi
          rw [callStep_async _ _ _ _ _ _ _ _ _ _ _ _ _ _ _ hact]
          apply hfin
          have hst := C.start ctx hs
          cases hsrc : startSrc cfg src ctx (innerG (stepType mode hd) src lazy steps (g.invoke id ctx via)) with
          | go r0 inh0 c0 g3 =>
            rw [hsrc] at hst
            exact Closed.runSteps_post C steps (src == .unit) lazy _ r0 inh0 g3 p' hst
          | wait w inh0 g3 => rw [hsrc] at hst; exact hst
          | crash g3 => rw [hsrc] at hst; exact hst
        | val n => rw [callStep.eq_def]; simp only [hact]; exact C.done _ _ _ hi
        | res r => rw [callStep.eq_def]; simp only [hact]; exact C.done _ _ _ hi
        | throw t => rw [callStep.eq_def]; simp only [hact]; exact C.done _ _ _ hi
      | doneException => rw [callStep.eq_def]; simp only [hact]; exact C.done _ _ _ hc
      | doneError => rw [callStep.eq_def]; simp only [hact]; exact C.done _ _ _ hc
      | doneResult => rw [callStep.eq_def]; simp only [hact]; exact C.done _ _ _ hc

  theorem Closed.runSteps_post {cfg : Cfg} {P : Type} (C : Closed cfg P) :
      ∀ (ss : List Step) (hd flow : Bool) (ctx : Option Nat) (r : R) (inh : Exec) (g : G) (p : P),
      C.Run p ss hd g → C.Post p [] (runSteps cfg ss hd flow ctx r inh g)
    | [], hd, flow, ctx, r, inh, g, p, h => by
      rw [runSteps.eq_def]
      exact C.nil r inh ctx h
    | s :: ss, hd, flow, ctx, r, inh, g, p, h => by
      rw [runSteps.eq_def]
      have tail : ∀ (o : Out), C.Post p ss o →
          C.Post p [] (match o with
            | .done r' inh' c' g' => runSteps cfg ss false flow (if flow = true then c' else ctx) r' inh' g'
            | o => o) := by
        intro o ho
        have hn := C.next ho
        cases o with
        | done r' inh' c' g' => exact Closed.runSteps_post C ss false flow _ r' inh' g' p hn
        | parked t g' => exact hn
        | crash g' => exact hn
      by_cases hsub : Dispatch.implSubmits (stepType s.mode hd) = true
      · simp only [hsub, ite_true]
        have hs := C.sub (Dispatch.transferExecutorTo s.mode.explicit inh) ctx r h
        cases hsb : submit cfg (Dispatch.transferExecutorTo s.mode.explicit inh) ctx g with
        | callNow c0 g' =>
          rw [hsb] at hs
          exact tail _ (Closed.callStep_post C s ss hd false c0 _ r _ g' p hs)
        | dropNow c0 g' =>
          rw [hsb] at hs
          exact tail _ (Closed.callStep_post C s ss hd true c0 _ r _ g' p hs)
        | queued jid j g' => rw [hsb] at hs; exact hs
      · simp only [hsub, Bool.false_eq_true, ite_false]
        exact tail _ (Closed.callStep_post C s ss hd false ctx none r _ g p (C.direct ctx h))
end

/-- a source with the continuations already attached to it -/
theorem Closed.afterStart_post {cfg : Cfg} {P : Type} (C : Closed cfg P) {p : P} {src : Src} {steps : List Step} {g : G}
    (flow : Bool) (ctx : Option Nat) (h : C.Start p src steps g) :
    C.Post p [] (afterStart cfg steps (src == .unit) flow ctx (startSrc cfg src ctx g)) := by
  have hst := C.start ctx h
  cases hsrc : startSrc cfg src ctx g with
  | go r inh c g' => rw [hsrc] at hst; exact Closed.runSteps_post C steps _ flow _ r inh g' p hst
  | wait w inh g' => rw [hsrc] at hst; exact hst
  | crash g' => rw [hsrc] at hst; exact hst

/-- a finished cascade hands on to the continuations already attached behind it -/
def andThen (cfg : Cfg) (k : List Step) : Out → Out
  | .done r inh c g => runSteps cfg k false true c r inh g
  | o => o

theorem resume_eq (cfg : Cfg) (t : Thread) (ctx : Option Nat) (g : G) :
    resume cfg t ctx g = unwind cfg t.outer (andThen cfg t.rest (fire cfg t ctx g)) := by
  unfold resume
  cases fire cfg t ctx g <;> rfl

theorem Closed.andThen_post {cfg : Cfg} {P : Type} (C : Closed cfg P) {p : P} {k : List Step} {o : Out}
    (h : C.Post p k o) : C.Post p [] (andThen cfg k o) := by
  have hn := C.next h
  cases o with
  | done r inh c g => exact Closed.runSteps_post C k false true c r inh g p hn
  | parked t g => exact hn
  | crash g => exact hn

/-- the source `detail::Start` starts: a PromiseCore goes to the executor the start names -/
def Src.onStart (src : Src) (ovr : Option Exec) : Src :=
  match src with
  | .promiseFn e p f => .promiseFn (ovr.getD e) p f
  | s => s

theorem onStart_unit (src : Src) (ovr : Option Exec) : (src.onStart ovr == Src.unit) = (src == Src.unit) := by
  cases src <;> rfl
theorem srcCores_onStart (src : Src) (ovr : Option Exec) : srcCores (src.onStart ovr) = srcCores src := by
  cases src <;> rfl
theorem srcFunctors_onStart (src : Src) (ovr : Option Exec) : srcFunctors (src.onStart ovr) = srcFunctors src := by
  cases src <;> rfl

/-- a Task that is started, with the continuations attached to it -/
theorem Closed.startLazy_post {cfg : Cfg} {P : Type} (C : Closed cfg P) {p : P} {src : Src} {steps : List Step} {g : G}
    (flow : Bool) (ctx : Option Nat) (ovr : Option Exec) (h : C.Start p (src.onStart ovr) steps g) :
    C.Post p [] (afterStart cfg steps (src == .unit) flow ctx (startLazy cfg src ovr ctx g)) := by
  cases src with
  | ready r =>
    have hs := C.ready (ovr.getD .inl) ctx h
    simp only [startLazy]
    cases hsb : submit cfg (ovr.getD .inl) ctx g with
    | callNow c g' => rw [hsb] at hs; exact Closed.runSteps_post C steps _ flow _ _ _ g' p hs
    | dropNow c g' => rw [hsb] at hs; exact Closed.runSteps_post C steps _ flow _ _ _ g' p hs
    | queued jid j g' => rw [hsb] at hs; exact hs
  | _ => exact C.afterStart_post flow ctx h

theorem run_cons (cfg : Cfg) (st : State) (ev : Event) (evs : List Event) :
    run cfg st (ev :: evs) = run cfg (mech cfg st ev) evs := rfl

/-- the empty state ignores everything but a well-formed source -/
theorem mech_idle (cfg : Cfg) (ev : Event)
    (h : ∀ s lazy head, ev = .src s lazy head → ((s == Src.unit) != head.isSome) = true) :
    mech cfg {} ev = {} := by
  cases ev with
  | src s lazy head =>
    have := h s lazy head rfl
    simp [mech, this]
  | attach s => rfl
  | set p => rfl
  | call k => rfl
  | start k => rfl
  | dropFuture => rfl
  | get => rfl

/-- every event keeps a relation between the state and the client's own view of its program -/
theorem run_fold (cfg : Cfg) {I : State → Prog → Handle → Prop}
    (step : ∀ st p h ev, I st p h → I (mech cfg st ev) (clientEv (p, h) ev).1 (clientEv (p, h) ev).2) :
    ∀ (evs : List Event) (st : State) (p : Prog) (h : Handle), I st p h →
    I (run cfg st evs) (evs.foldl clientEv (p, h)).1 (evs.foldl clientEv (p, h)).2
  | [], _, _, _, hinv => hinv
  | ev :: evs, st, p, h, hinv => by
    rw [run_cons]
    simp only [List.foldl_cons]
    exact run_fold cfg step evs (mech cfg st ev) (clientEv (p, h) ev).1 (clientEv (p, h) ev).2 (step st p h ev hinv)

/-- … and the first well-formed source establishes it: then it holds after every list of client events -/
theorem run_client (cfg : Cfg) {I : State → Prog → Handle → Prop}
    (step : ∀ st p h ev, I st p h → I (mech cfg st ev) (clientEv (p, h) ev).1 (clientEv (p, h) ev).2)
    (src : ∀ s lazy head, ((s == Src.unit) != head.isSome) = false →
      I (mech cfg {} (.src s lazy head)) ⟨s, lazy, head.toList, none⟩ (if lazy then .task else .fut)) :
    ∀ (evs : List Event),
    match client evs with
    | none => run cfg {} evs = {}
    | some (p, h) => I (run cfg {} evs) p h
  | [] => rfl
  | ev :: evs => by
    rw [run_cons]
    cases ev with
    | src s lazy head =>
      simp only [client]
      cases hwf : ((s == Src.unit) != head.isSome)
      · simp only [Bool.false_eq_true, ite_false]
        exact run_fold cfg step evs _ _ _ (src s lazy head hwf)
      · simp only [ite_true]
        rw [mech_idle cfg _ (fun s' l' h' he => by cases he; exact hwf)]
        exact run_client cfg step src evs
    | attach s => rw [mech_idle cfg _ (fun _ _ _ he => by cases he)]; exact run_client cfg step src evs
    | set p => rw [mech_idle cfg _ (fun _ _ _ he => by cases he)]; exact run_client cfg step src evs
    | call k => rw [mech_idle cfg _ (fun _ _ _ he => by cases he)]; exact run_client cfg step src evs
    | start k => rw [mech_idle cfg _ (fun _ _ _ he => by cases he)]; exact run_client cfg step src evs
    | dropFuture => rw [mech_idle cfg _ (fun _ _ _ he => by cases he)]; exact run_client cfg step src evs
    | get => rw [mech_idle cfg _ (fun _ _ _ he => by cases he)]; exact run_client cfg step src evs

end Yaclib.Pipeline
