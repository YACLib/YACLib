/- C20 continued: resumption, and the client-level allocation bound (unconditional: D10 programs included). -/
import YaclibModel.Proofs.PipelineAlloc

namespace Yaclib.Pipeline
open Yaclib.Extracted

theorem unwind_alloc (cfg : Cfg) : ∀ (fs : List Frame) (o : Out) (B extra : Nat),
    AllocOut B (innerFrames fs + extra) [] o → AllocOut B extra [] (unwind cfg fs o)
  | [], o, B, extra, h => by
    cases o <;> simpa [unwind, innerFrames] using h
  | f0 :: fs, .done r inh c' g, B, extra, h => by
    simp only [unwind]
    apply unwind_alloc cfg fs _ B extra
    apply runSteps_alloc cfg f0.rest false true c' r f0.own _ B _
    simp only [AllocOut, innerFrames, innerSteps] at h
    simp only [asyncDoneAcct_cAlloc]
    omega
  | f0 :: fs, .parked t g, B, extra, h => by
    simp only [AllocOut] at h
    simp only [unwind, AllocOut, innerT, innerFrames_append]
    simp only [innerT] at h
    omega
  | f0 :: fs, .crash g, B, extra, h => by simpa [unwind, AllocOut] using h

theorem fire_alloc (cfg : Cfg) (t : Thread) (ctx : Option Nat) (g : G) (B extra : Nat)
    (hb : g.cAlloc + innerWait t.wait + innerSteps t.rest + extra ≤ B) :
    AllocOut B extra t.rest (fire cfg t ctx g) := by
  unfold fire
  cases hwt : t.wait with
  | promise p fl =>
    rw [hwt] at hb
    simp only [AllocOut]
    simp only [innerWait] at hb
    omega
  | job jid k jk =>
    rw [hwt] at hb
    cases jk with
    | step s input hd =>
      simp only []
      apply callStep_alloc cfg s t.rest hd false (some k) (some t.inh) input t.inh _ B extra
      simp only [innerWait] at hb
      simpa [G.finishJob] using hb
    | readyHead r =>
      simp only [AllocOut]
      simp only [innerWait] at hb
      simp [G.finishJob]
      omega
    | promiseHead p fl =>
      simp only [AllocOut, innerT, innerWait, innerFrames]
      simp only [innerWait] at hb
      simp [G.finishJob, G.freeFunctor]
      omega

theorem resume_alloc (cfg : Cfg) (t : Thread) (ctx : Option Nat) (g : G) (B : Nat)
    (hb : g.cAlloc + innerT t ≤ B) : AllocOut B 0 [] (resume cfg t ctx g) := by
  have hf := fire_alloc cfg t ctx g B (innerFrames t.outer + 0) (by simp only [innerT] at hb; omega)
  rw [resume_eq]
  exact unwind_alloc cfg t.outer _ B 0 ((allocClosed cfg).andThen_post (p := (B, _)) hf)

/-! ### which handle the client holds ⇔ what `mech` thinks (unconditional) -/

def HInv (st : State) (h : Handle) : Prop :=
  st.crashed = true ∨
  match st.ctl with
  | .idle => False
  | .task _ _ => h = .task ∧ st.held = true
  | .future _ _ => h = .fut ∧ st.held = true
  | .pending _ => (h = .fut ∧ st.held = true) ∨ (h = .none ∧ st.held = false)
  | .gone => h = .none

/-- the allocation bound: what has been allocated, plus what the functors not yet invoked may still allocate, stays within
    the size of the program text -/
def CBound (st : State) (p : Prog) : Prop :=
  if st.crashed = true then st.g.cAlloc ≤ p.size else
  match st.ctl with
  | .idle => True
  | .task _ steps => st.g.cAlloc + innerSteps steps ≤ p.size
  | .future _ _ => st.g.cAlloc ≤ p.size
  | .pending t => st.g.cAlloc + innerT t ≤ p.size
  | .gone => st.g.cAlloc ≤ p.size

def CInv (st : State) (p : Prog) (h : Handle) : Prop := HInv st h ∧ CBound st p

theorem cinv_settle (st0 : State) (o : Out) (p' : Prog) (h' : Handle) (hc : st0.crashed = false)
    (hh : (h' = .fut ∧ st0.held = true) ∨ (h' = .none ∧ st0.held = false))
    (ho : AllocOut p'.size 0 [] o) : CInv (settle st0 o) p' h' := by
  cases o with
  | done r inh c g =>
    simp only [AllocOut, innerSteps] at ho
    cases hh with
    | inl hh => exact ⟨Or.inr (by simp [settle, hh.2, hh.1]), by simp [CBound, settle, hh.2, hc]; omega⟩
    | inr hh => exact ⟨Or.inr (by simp [settle, hh.2, hh.1]), by simp [CBound, settle, hh.2, hc, G.freeCore]; omega⟩
  | parked t g =>
    simp only [AllocOut] at ho
    exact ⟨Or.inr (by simpa [settle] using hh), by simp [CBound, settle, hc]; omega⟩
  | crash g =>
    simp only [AllocOut] at ho
    exact ⟨Or.inl (by simp [settle]), by simp [CBound, settle]; omega⟩

theorem size_attach (p : Prog) (s : Step) :
    Prog.size { p with steps := p.steps ++ [s] } = p.size + 1 + innerStep s := by
  simp only [Prog.size, sizeSteps_eq, innerSteps_append, List.length_append, List.length_cons, List.length_nil]
  rw [innerSteps, innerSteps]
  omega

theorem innerSteps_overrideHead (steps : List Step) (ovr : Option Exec) :
    innerSteps (overrideHead steps ovr) = innerSteps steps := by
  cases ovr with
  | none => cases steps <;> rfl
  | some e =>
    cases steps with
    | nil => rfl
    | cons a as =>
      cases a with
      | mk i sg m b =>
        simp only [overrideHead]
        rw [innerSteps, innerSteps]
        cases b <;> simp [innerStep]

theorem innerFrames_attach (s : Step) : ∀ (fs : List Frame), fs ≠ [] →
    innerFrames (attachFrames fs s) = innerFrames fs + innerStep s
  | [], h => (h rfl).elim
  | [f], _ => by
    simp only [attachFrames, innerFrames, innerSteps_append]
    rw [innerSteps, innerSteps]
    omega
  | f :: f' :: fs, _ => by
    have := innerFrames_attach s (f' :: fs) (by simp)
    simp only [attachFrames, innerFrames] at this ⊢
    omega

theorem innerT_attach (t : Thread) (s : Step) : innerT (t.attach s) = innerT t + innerStep s := by
  unfold Thread.attach
  cases ho : t.outer with
  | nil =>
    simp only [innerT, ho, innerFrames, innerSteps_append]
    rw [innerSteps, innerSteps]
    omega
  | cons f fs =>
    have := innerFrames_attach s (f :: fs) (by simp)
    simp only [innerT, ho, this]
    omega

end Yaclib.Pipeline
