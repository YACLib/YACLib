/- C11 invariant: preservation by the first `SubEqual` and by the waiter's steps on the event's mutex -/
import YaclibModel.Proofs.WaitR

namespace Yaclib.Wait
open Auto
variable {w : Workload} {s : State}

theorem inv_wSub1 (hi : Inv w s) (hp : s.wpc = .sub1) : Inv w (doSub1 s) := by
  have hal : s.alive = true := hi.alive_iff.mpr (by simp [hp, WPc.inCall])
  have hone := hi.sub1_multi hp
  have hs1 := hi.early_inv (by simp [hp, WPc.early])
  have hpre := hi.pre_to (by simp [hp, WPc.preTimeout])
  have hcnt := hi.c_cnt hal hone
  have hwc := hi.c_wc hal
  have hrc := hi.c_rc hal
  have hle := hi.wc_le hal
  have hig : s.inGet = false := by
    cases hg : s.inGet with
    | false => rfl
    | true => have := hi.inget hg (Or.inl hal); omega
  simp only [hs1, hpre.2.1, Bool.false_eq_true, ↓reduceIte, Ninn, Ntaken, Ndecd, Nback] at hcnt hwc hrc
  unfold doSub1
  by_cases hz : s.counter = (((s.hi - s.lo) - s.wc + 1 : Nat) : Int)
  · have h1 : Ninn s = 0 := by simp only [Ninn]; omega
    have h2 : Ntaken s = 0 := by simp only [Ntaken]; omega
    have h3 : Nback s = 0 := by simp only [Nback]; omega
    have hnos : s.setter = none := by
      cases hs : s.setter with
      | none => rfl
      | some j => have := hi.set_cnt hal hone (by simp [hs]); omega
    have hclean := hi.clean_of hal h1 h2 hnos
    have hall := hi.all_ready hal (by simp [regBound, hp]) h1 h3
    have hev : ∀ j, (s.fut j).word ≠ .ev := fun j hw => (hclean j).1 (hi.g_ev hal j hw)
    have htk : ∀ j, (s.fut j).ppc ≠ .took := fun j hw => (hclean j).2.1 (hi.g_took hal j hw)
    simp only [hz, ↓reduceIte, toRet, hig, Bool.false_eq_true]
    inv_fields_pc hi hp
  · simp only [hz, ↓reduceIte]
    inv_fields_pc hi hp

/-- what the waiter knows when it finds the flag set while taking the mutex -/
theorem ready_facts (hi : Inv w s) (hal : s.alive = true) (hb : regBound s = s.hi) (hr : s.ready = true)
    (hm : s.holder = none) :
    (∀ j, (s.fut j).g ≠ .inn ∧ (s.fut j).g ≠ .taken ∧ (s.fut j).ppc ≠ .setting ∧ (s.fut j).ppc ≠ .locked) ∧
    (s.rc = 0 → ∀ j, s.lo ≤ j → j < s.hi → (s.fut j).word = .result) := by
  have hc := hi.ready_counts hal hr
  refine ⟨hi.clean_of_ready hal hc.1 hc.2.1 hr (by simp [hm]), ?_⟩
  intro h0
  have hrc := hi.c_rc hal
  exact hi.all_ready hal hb hc.1 (by omega)

theorem inv_wLock1 (hi : Inv w s) (hp : s.wpc = .lock1) (hm : s.holder = none) : Inv w (doLock1 s) := by
  have hal : s.alive = true := hi.alive_iff.mpr (by simp [hp, WPc.inCall])
  have hpre := hi.pre_to (by simp [hp, WPc.preTimeout])
  unfold doLock1
  by_cases hr : s.ready = true
  · have hf := ready_facts hi hal (by simp [regBound, hp]) hr hm
    have hclean := hf.1
    have hall := hf.2 hpre.1
    simp only [hr, ↓reduceIte]
    inv_fields_pc hi hp
  · simp only [hr, Bool.false_eq_true, ↓reduceIte]
    cases ht : s.timed <;> simp only [Bool.not_true, Bool.not_false] <;> inv_fields_pc hi hp

theorem inv_wSleep (hi : Inv w s) (f : Bool) (hp : s.wpc = .held f) : Inv w { s with wpc := .asleep f, holder := none } := by
  cases f <;> inv_fields_pc hi hp

theorem inv_wTimeout (hi : Inv w s) (hp : s.wpc = .asleep false) (ht : s.timed = true) :
    Inv w { s with wpc := .timedOut, timedOutSeen := true } := by
  inv_fields_pc hi hp

theorem inv_wWake (hi : Inv w s) (f : Bool) (hp : s.wpc = .asleep f) (hm : s.holder = none) : Inv w (doWake s f) := by
  have hal : s.alive = true := hi.alive_iff.mpr (by simp [hp, WPc.inCall])
  unfold doWake
  by_cases hr : s.ready = true
  · have hf := ready_facts hi hal (by simp [regBound, hp]) hr hm
    have hclean := hf.1
    have hall := hf.2
    have hseen := hi.rc_seen hal
    have hst := hi.seen_timed hal
    simp only [hr, ↓reduceIte]
    cases f
    · have hpre := hi.pre_to (by simp [hp, WPc.preTimeout])
      have hall' := hall hpre.1
      simp only [Bool.false_eq_true, ↓reduceIte]
      inv_fields_pc hi hp
    · simp only [↓reduceIte]
      by_cases h0 : s.rc = 0
      · have hall' := hall h0
        simp only [h0, decide_true]
        inv_fields_pc hi hp
      · simp only [h0, decide_false]
        inv_fields_pc hi hp
  · simp only [hr, Bool.false_eq_true, ↓reduceIte]
    cases f <;> inv_fields_pc hi hp

theorem inv_wLockT (hi : Inv w s) (hp : s.wpc = .timedOut) (hm : s.holder = none) : Inv w (doLockT s) := by
  have hal : s.alive = true := hi.alive_iff.mpr (by simp [hp, WPc.inCall])
  have hto := hi.timedout_inv hp
  unfold doLockT
  by_cases hr : s.ready = true
  · have hf := ready_facts hi hal (by simp [regBound, hp]) hr hm
    have hclean := hf.1
    have hall := hf.2 hto.1
    simp only [hr, ↓reduceIte]
    inv_fields_pc hi hp
  · simp only [hr, Bool.false_eq_true, ↓reduceIte]
    rw [← advRst_wpc _ (.rst s.lo)]
    apply inv_advRst _ s.lo rfl
    have hpost := hi.post_inv (by simp [hp, WPc.postReg])
    have hnb : ∀ j, (s.fut j).g ≠ .back := by
      have hrc := hi.c_rc hal
      exact hi.none_of_zero hal (by simp) (by simp only [Nback] at hrc; omega)
    inv_fields_pc hi hp

end Yaclib.Wait
