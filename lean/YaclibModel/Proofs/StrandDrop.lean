/- Invariants of the C07 model, part 3: what a Drop activation took is Dropped, once. -/
import YaclibModel.Proofs.StrandOrd

namespace Yaclib.Strand

theorem nodup_reverse' {α : Type} {l : List α} : l.reverse.Nodup ↔ l.Nodup := by
  unfold List.Nodup
  rw [List.pairwise_reverse]
  constructor <;> intro h <;> exact List.Pairwise.imp (fun h => Ne.symm h) h

theorem fst_excl {α : Type} {l : List (α × Bool)} (hn : (l.map Prod.fst).Nodup) {j : α} (h1 : (j, true) ∈ l)
    (h2 : (j, false) ∈ l) : False := by
  induction l with
  | nil => cases h1
  | cons p l ih =>
      simp only [List.map_cons, List.nodup_cons, List.mem_map] at hn
      simp only [List.mem_cons] at h1 h2
      rcases h1 with h1 | h1 <;> rcases h2 with h2 | h2
      · rw [← h1] at h2; cases h2
      · exact hn.1 ⟨_, h2, by rw [← h1]⟩
      · exact hn.1 ⟨_, h1, by rw [← h2]⟩
      · exact ih hn.2 h1 h2

theorem sameSubLt_ne {a b : JobId} (h : sameSubLt a b) : a ≠ b := by
  intro hab; subst hab; exact absurd (h rfl) (Nat.lt_irrefl _)

theorem InvOrd.push_nodup {w s} (hi : InvOrd w s) : s.pushOrder.Nodup :=
  List.Pairwise.imp sameSubLt_ne hi.push_pw

theorem InvOrd.fsts_nodup {w s} (hi : InvOrd w s) : (fsts s.taken).Nodup := by
  have := hi.push_nodup; rw [hi.order, List.nodup_append] at this; exact this.1

theorem InvOrd.inbox_nodup {w s} (hi : InvOrd w s) : s.word.inbox.Nodup := by
  have := hi.push_nodup; rw [hi.order, List.nodup_append] at this
  exact nodup_reverse'.mp this.2.1

/-- a job still in the inbox has not been taken by any exchange -/
theorem InvOrd.inbox_fresh {w s} (hi : InvOrd w s) {j : JobId} (hj : j ∈ s.word.inbox) (b : Bool) : (j, b) ∉ s.taken := by
  have := hi.push_nodup; rw [hi.order, List.nodup_append] at this
  intro hm
  have h1 : j ∈ fsts s.taken := by
    cases b
    · exact mem_fsts.mpr (Or.inr hm)
    · exact mem_fsts.mpr (Or.inl hm)
  exact this.2.2 j h1 j (List.mem_reverse.mpr hj) rfl

/-- a job is never taken both by a Call and by a Drop exchange -/
theorem InvOrd.taken_excl {w s} (hi : InvOrd w s) {j : JobId} (h1 : (j, true) ∈ s.taken) (h2 : (j, false) ∈ s.taken) : False := by
  exact fst_excl hi.fsts_nodup h1 h2

theorem mem_append_tag_true {l : List (JobId × Bool)} {b : List JobId} {x : JobId} :
    (x, false) ∈ l ++ b.map (tag true) ↔ (x, false) ∈ l := by
  simp [tag]

theorem mem_append_tag_false {l : List (JobId × Bool)} {b : List JobId} {x : JobId} :
    (x, false) ∈ l ++ b.map (tag false) ↔ (x, false) ∈ l ∨ x ∈ b := by
  simp [tag]

structure InvDrop (w : Workload) (s : State) : Prop where
  drop_taken : ∀ j ∈ s.dropped, (j, false) ∈ s.taken
  drain_taken : ∀ a, ∀ j ∈ drainRem (s.acts a), (j, false) ∈ s.taken ∧ j ∉ s.dropped ∧ s.takenBy j = a
  drain_nodup : ∀ a, (drainRem (s.acts a)).Nodup
  dropped_nodup : s.dropped.Nodup
  /-- nothing a Drop activation took is forgotten -/
  taken_drop : ∀ j, (j, false) ∈ s.taken → j ∈ s.dropped ∨ j ∈ drainRem (s.acts (s.takenBy j))

theorem invDrop_init (w : Workload) : InvDrop w (init w) := by
  constructor <;> simp [init, drainRem]

/- the clauses of `InvDrop`, each instantiated where the membership (or the list) it speaks of occurs; not in `Auto`, whose
   annotations of `InvTok` these proofs do not need -/
namespace DropAuto
attribute [scoped grind →] InvDrop.dropped_nodup
scoped grind_pattern InvDrop.drop_taken => InvDrop w s, j ∈ s.dropped
scoped grind_pattern InvDrop.drain_taken => InvDrop w s, j ∈ drainRem (s.acts a)
scoped grind_pattern InvDrop.drain_nodup => InvDrop w s, drainRem (s.acts a)
scoped grind_pattern InvDrop.taken_drop => InvDrop w s, (j, false) ∈ s.taken
attribute [scoped grind] drainRem
end DropAuto
open DropAuto

macro "drop_auto" : tactic =>
  `(tactic| (constructor <;> simp only [doLoad, doCasOk, doSched, doCall, doBegin, doEnd, doALoad, doACasOk, doACasFail, doResub,
      doDropX, doDrop, upd, mem_append_tag_true, mem_append_tag_false, List.mem_reverse] <;> grind))

theorem invDrop_step {w s l s'} (ht : InvTok w s) (ho : InvOrd w s) (hi : InvDrop w s) (hs : Step s l s') :
    InvDrop w s' := by
  cases hs with
  | sLoad i v h hj hv => drop_auto
  | sCasOk i exp h he => drop_auto
  | sCasFail i exp v h hne hv => drop_auto
  | sCasSpur i exp h => exact hi
  | sSched i h =>
      have hf := ht.fresh s.nacts (Nat.le_refl _)
      drop_auto
  | aBegin a j rem h => drop_auto
  | aEnd a j rem h => drop_auto
  | aLoad a sawNull h hv => cases sawNull <;> drop_auto
  | aCasOk a h hw => drop_auto
  | aCasFail a h hw => drop_auto
  | aResub a h =>
      have hf := ht.fresh s.nacts (Nat.le_refl _)
      drop_auto
  | aCall a h =>
      obtain ⟨j, js, hwd⟩ := word_nonempty_cases (ht.tok_act_word a (by rw [h]; rfl))
      have hfr : ∀ x, x ∈ j :: js → ∀ b, (x, b) ∉ s.taken := fun x hx b => ho.inbox_fresh (by rw [hwd]; exact hx) b
      simp only [doCall, hwd]; drop_auto
  | aDropX a h =>
      obtain ⟨j, js, hwd⟩ := word_nonempty_cases (ht.tok_act_word a (by rw [h]; rfl))
      have hfr : ∀ x, x ∈ j :: js → ∀ b, (x, b) ∉ s.taken := fun x hx b => ho.inbox_fresh (by rw [hwd]; exact hx) b
      have hnd : (j :: js).Nodup := by have := ho.inbox_nodup; rw [hwd] at this; exact this
      simp only [doDropX, hwd]; drop_auto
  | aDrop a j rem h =>
      have h1 := hi.drain_taken a
      have h2 := hi.drain_nodup a
      rw [h] at h1 h2
      by_cases hr : rem = []
      · subst hr; drop_auto
      · drop_auto

end Yaclib.Strand
