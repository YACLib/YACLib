/- WhenS: what the combinator's own steps on a Shared instance do (observer 0 inside SetCallbackImpl<true>, callback pushed,
   callback entered inline, callback entered by the fulfiller's walk). -/
import YaclibModel.Proofs.WhenComposeShared

namespace Yaclib.WhenS
open Yaclib Yaclib.Shared

variable {ws : Shared.Workload} {s s' : Shared.State}

theorem pcOk_att (c : Cb) (e : List Cb) : pcOk (.att c e) = decide (c = cb0) := rfl
theorem pcOk_run (c : Cb) (st : FSt) : pcOk (.run c st) = decide (c = cb0 ∧ st = .begin) := rfl
theorem pcOk_idle : pcOk .idle = true := rfl

macro "o0_auto" : tactic =>
  `(tactic| ((try simp only [inLists] at *) <;> (try sh_unfold) <;>
      (try simp only [pcOk_att, pcOk_run, pcOk_idle, decide_eq_true_eq] at *) <;>
      grind [cb0_kind, cb0_owner, cb0_eq, opKind, = List.count_singleton, = wordList_list, = wordList_result,
        = walkList_walk, = walkList_start, = walkList_dec, = heldCb_att, = heldCb_run, List.mem_of_mem_erase]))

/-- observer 0 inside `SetCallbackImpl<true>` (load, failed / spurious CAS): it keeps holding `cb0`, nothing is installed or entered -/
theorem reg_frame {l : Shared.Label} (hO : O0 s) (hs : Shared.Step s l s') (hl : isRegInternal l = true) :
    O0 s' ∧ (inLists s' → inLists s) ∧ (firedIds s').count cb0 = (firedIds s).count cb0 ∧
    (s'.obs 0).todo = (s.obs 0).todo := by
  obtain ⟨h1, h2⟩ := hO
  cases hs with
  | oLoad t op rest k x h ht hk hr hx =>
      simp only [isRegInternal, decide_eq_true_eq] at hl
      subst hl
      have hop : op = .attach .retire ∧ k = .retire ∧ (s.obs 0).seq = 0 := by
        rcases h1 with h1 | h1
        · rw [h1.1] at ht; cases ht; simp [opKind] at hk; exact ⟨rfl, hk.symm, h1.2.2 h⟩
        · rw [h1.1] at ht; cases ht
      obtain ⟨rfl, rfl, hseq⟩ := hop
      have hcb : (⟨0, (s.obs 0).seq, .retire⟩ : Cb) = cb0 := by rw [hseq]; rfl
      cases x with
      | list l => refine ⟨⟨?_, ?_⟩, ?_, ?_, ?_⟩ <;> o0_auto
      | result =>
          simp only [doLoad, reload, failPath, reduceCtorEq, ↓reduceIte]
          refine ⟨⟨?_, ?_⟩, ?_, ?_, ?_⟩ <;> o0_auto
  | oCasFail t c e x h hw hx =>
      simp only [isRegInternal, decide_eq_true_eq] at hl
      subst hl
      have hc : c = cb0 := by
        rcases h1 with h1 | h1
        · have := h1.2.1; rw [h] at this; simpa [pcOk] using this
        · rw [h1.2] at h; cases h
      subst hc
      cases x with
      | list l => refine ⟨⟨?_, ?_⟩, ?_, ?_, ?_⟩ <;> o0_auto
      | result =>
          simp only [reload, failPath, cb0_kind, reduceCtorEq, ↓reduceIte]
          refine ⟨⟨?_, ?_⟩, ?_, ?_, ?_⟩ <;> o0_auto
  | oCasSpur t c e x h hw hx =>
      simp only [isRegInternal, decide_eq_true_eq] at hl
      subst hl
      have hc : c = cb0 := by
        rcases h1 with h1 | h1
        · have := h1.2.1; rw [h] at this; simpa [pcOk] using this
        · rw [h1.2] at h; cases h
      subst hc
      cases x with
      | list l => refine ⟨⟨?_, ?_⟩, ?_, ?_, ?_⟩ <;> o0_auto
      | result =>
          simp only [reload, failPath, cb0_kind, reduceCtorEq, ↓reduceIte]
          refine ⟨⟨?_, ?_⟩, ?_, ?_, ?_⟩ <;> o0_auto
  | _ => simp [isRegInternal] at hl

/-- `oCasOk 0`: the callback is pushed; `SetCallback` returns true -/
theorem casOk_frame (hO : O0 s) (hs : Shared.Step s (.oCasOk 0) s') :
    O0 s' ∧ (firedIds s').count cb0 = (firedIds s).count cb0 ∧ (s'.obs 0).todo = [] ∧ (s.obs 0).todo ≠ [] := by
  obtain ⟨h1, h2⟩ := hO
  cases hs with
  | oCasOk _ c e h hw =>
      have hc : c = cb0 := by
        rcases h1 with h1 | h1
        · have := h1.2.1; rw [h] at this; simpa [pcOk] using this
        · rw [h1.2] at h; cases h
      subst hc
      simp only [doCasOk, cb0_kind, reduceCtorEq, ↓reduceIte]
      refine ⟨⟨?_, ?_⟩, ?_, ?_, ?_⟩ <;> o0_auto

/-- `oEnter 0 cb0`: the registrar found the result and enters its callback itself: first entry, nothing stays installed -/
theorem enterC_frame (hI : Shared.Inv ws s) (hO : O0 s) (hs : Shared.Step s (.oEnter 0 cb0) s') :
    O0 s' ∧ ¬ inLists s' ∧ (firedIds s').count cb0 = (firedIds s).count cb0 + 1 ∧ (firedIds s).count cb0 = 0 ∧
    (s'.obs 0).todo = [] ∧ (s.obs 0).todo ≠ [] ∧ s.fpc ≠ .start := by
  obtain ⟨h1, h2⟩ := hO
  have hcons := hI.c.conserve cb0
  have hnd := hI.c.nodup cb0
  have hl1 := hI.c.link1 0 cb0
  have hrs := hI.a.run_shape 0 cb0 .begin
  cases hs with
  | oEnter _ _ h hk =>
      have hinf : 0 < s.inflight.count cb0 := List.count_pos_iff.mpr (hl1 (by rw [h]; rfl)).1
      have hw0 : (wordList s.word).count cb0 = 0 := by omega
      have hk0 : (walkList s.fpc).count cb0 = 0 := by omega
      have hf0 : (firedIds s).count cb0 = 0 := by omega
      have hw1 : cb0 ∉ wordList s.word := List.count_eq_zero.mp hw0
      have hk1 : cb0 ∉ walkList s.fpc := List.count_eq_zero.mp hk0
      refine ⟨⟨?_, ?_⟩, ?_, ?_, hf0, ?_, ?_, (hrs h).1⟩ <;> o0_auto

/-- `fEnter cb0`: the fulfiller's walk enters the callback: it was installed, first entry, nothing stays installed -/
theorem enterP_frame (hI : Shared.Inv ws s) (hO : O0 s) (hs : Shared.Step s (.fEnter cb0) s') :
    O0 s' ∧ inLists s ∧ ¬ inLists s' ∧ (firedIds s').count cb0 = (firedIds s).count cb0 + 1 ∧
    (firedIds s).count cb0 = 0 ∧ s'.obs 0 = s.obs 0 ∧ s.stored = some ws.prod.res := by
  obtain ⟨h1, h2⟩ := hO
  have hcons := hI.c.conserve cb0
  have hnd := hI.c.nodup cb0
  have hwi := hI.a.word_iff
  have hst := hI.a.stored_eq
  cases hs with
  | fEnter _ rest d h hk hf =>
      have hwalk : (walkList s.fpc).count cb0 = 1 + rest.count cb0 := by rw [h]; simp; omega
      have hr0 : rest.count cb0 = 0 := by omega
      have hw0 : (wordList s.word).count cb0 = 0 := by omega
      have hf0 : (firedIds s).count cb0 = 0 := by omega
      have hr1 : cb0 ∉ rest := List.count_eq_zero.mp hr0
      have hw1 : cb0 ∉ wordList s.word := List.count_eq_zero.mp hw0
      have hstored : s.stored = some ws.prod.res := by rw [hst, h]; simp
      refine ⟨⟨?_, ?_⟩, ?_, ?_, ?_, hf0, ?_, hstored⟩ <;> o0_auto

end Yaclib.WhenS
