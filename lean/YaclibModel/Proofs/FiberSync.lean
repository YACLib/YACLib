/- Invariants of the C18 model `Mx` (Mutex / TimedMutex / ConditionVariable), Model/FiberSync.lean. -/
import YaclibModel.Model.FiberSync

namespace Yaclib.FiberSync.Mx
open Yaclib.FiberSync

structure Inv (k : Bool) (s : State) : Prop where
  hk : s.timed = k
  /-- `_occupied == false` ⇒ nobody holds the lock -/
  occ_free : s.occupied = false → s.holders = []
  len : s.holders.length ≤ 1
  occ_held : s.occupied = true → s.holders ≠ []
  /-- fibers in transit are runnable: they re-evaluate the lock condition next -/
  transit_pc : ∀ g, g ∈ s.transit → (s.pc g).woken = true
  /-- no lost wake-up: a free mutex with parked lockers has a notified locker on its way -/
  free_transit : s.occupied = false → s.mq ≠ [] → s.transit ≠ []
  mq_pc : ∀ g, g ∈ s.mq → (s.pc g).inMq = true
  pc_mq : ∀ g, (s.pc g).inMq = true → g ∈ s.mq
  cq_pc : ∀ g, g ∈ s.cq → (s.pc g).inCq = true
  pc_cq : ∀ g, (s.pc g).inCq = true → g ∈ s.cq
  dl_tlf : ∀ g r d, s.pc g = .tlfParked r d → r ≤ d
  dl_cv : ∀ g r d, s.pc g = .cvTimed r d → r ≤ d
  /-- only a `timed_mutex` has fibers inside `TimedWaitHelper` -/
  tlf_timed : ∀ g r d, s.pc g = .tlfParked r d → s.timed = true
  tlfl_timed : ∀ g r, s.pc g = .tlfLocking r → s.timed = true

theorem inv_init (k : Bool) (n : Nat) : Inv k (init k n) := by
  constructor <;> (simp only [init]) <;> grind [Pc.woken, Pc.inMq, Pc.inCq]

@[simp] theorem woken_locking (k : Kont) : (Pc.locking k).woken = true := rfl
@[simp] theorem woken_tlfLocking (r : Nat) : (Pc.tlfLocking r).woken = true := rfl
@[simp] theorem woken_idle : Pc.idle.woken = false := rfl
@[simp] theorem inMq_lockParked (k : Kont) : (Pc.lockParked k).inMq = true := rfl
@[simp] theorem inMq_tlfParked (r d : Nat) : (Pc.tlfParked r d).inMq = true := rfl
@[simp] theorem inCq_cvParked : Pc.cvParked.inCq = true := rfl
@[simp] theorem inCq_cvTimed (r d : Nat) : (Pc.cvTimed r d).inCq = true := rfl

/-- a fiber taken off the mutex queue by `NotifyOne` re-evaluates the loop condition of the call that parked it -/
theorem wake_cases {p : Pc} (h : p.inMq = true) :
    (∃ k, p = .lockParked k ∧ wake p = .locking k) ∨ ∃ r d, p = .tlfParked r d ∧ wake p = .tlfLocking r := by
  cases p <;> simp_all [Pc.inMq, wake]

/-- a fiber waits on at most one queue -/
theorem Inv.cq_mq {k s} (hi : Inv k s) {g : Fid} (hc : g ∈ s.cq) (hm : g ∈ s.mq) : False := by
  have h1 := hi.cq_pc g hc
  have h2 := hi.mq_pc g hm
  cases h : s.pc g <;> simp_all [Pc.inCq, Pc.inMq]

theorem rm_nil (f : Fid) : rm [] f = [] := rfl

theorem erase_nil_of_len_le_one {l : List Fid} {f : Fid} (h : f ∈ l) (hl : l.length ≤ 1) : l.erase f = [] := by
  have := List.length_erase_of_mem h
  exact List.length_eq_zero_iff.mp (by omega)

theorem length_erase_mem {l : List Fid} {f : Fid} (h : f ∈ l) : (l.erase f).length + 1 = l.length := by
  have := List.length_erase_of_mem h
  have : 0 < l.length := List.length_pos_of_mem h
  omega

/- Inside `Auto`, `grind` reads `hi : Inv k s` as a source of facts: a clause is instantiated when the term it speaks
   of occurs. -/
namespace Auto
attribute [scoped grind →] Inv.hk Inv.occ_free Inv.len Inv.occ_held Inv.free_transit Inv.transit_pc Inv.mq_pc Inv.pc_mq
  Inv.cq_pc Inv.pc_cq Inv.dl_tlf Inv.dl_cv Inv.tlf_timed Inv.tlfl_timed Inv.cq_mq
attribute [scoped grind] Pc.woken Pc.inMq Pc.inCq PickOk
attribute [scoped grind =] upd_apply mem_rm rm_nil erase_nil_of_len_le_one List.append_eq_nil_iff
scoped grind_pattern wake_cases => wake p
end Auto

/-- closes `Inv k s'` for the state `s'` after one step: the effect is unfolded in the goal, each clause goes to `grind` -/
macro "mx_auto" : tactic =>
  `(tactic| (constructor <;> (try simp only [acquire, doLockPark, release, notifyM, doTlfPark, doTlfTimeout, doCvWait,
      doCvWaitFor, doCvWaitUntil, doCvTimeout, doNotifyOne, doNotifyAll, doTlfRepark]) <;> grind -ring -linarith -ac -order))

end Yaclib.FiberSync.Mx
