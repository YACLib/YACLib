/- Termination measure: every delivery (fulfil the pending promise / run the queued job) strictly decreases the amount of
   program text the suspended pipeline still has in front of it.  Hence finitely many deliveries bring every pipeline to
   rest — for every executor configuration (every rejection position). -/
import YaclibModel.Proofs.PipelineRun
import YaclibModel.Proofs.PipelineInd

namespace Yaclib.Pipeline
open Yaclib.Extracted

def mSrc : Src → Nat
  | .unit => 0
  | .promiseFn _ _ _ => 2
  | _ => 1

mutual
  def mStep : Step → Nat
    | .mk _ _ _ beh =>
      (match beh with
       | .async src _ steps => 1 + mSrc src + mSteps steps
       | _ => 1)
  def mSteps : List Step → Nat
    | [] => 0
    | s :: ss => mStep s + mSteps ss
end

theorem mStep_async (id : Nat) (sig : Sig) (m : Mode) (src : Src) (lazy : Bool) (steps : List Step) :
    mStep (.mk id sig m (.async src lazy steps)) = 1 + mSrc src + mSteps steps := by
  rw [mStep]

theorem mStep_pos : ∀ s : Step, 1 ≤ mStep s
  | .mk id sig m beh => by cases beh <;> rw [mStep] <;> (try intros; simp_all) <;> omega

def mWait : Wait → Nat
  | .promise _ _ => 1
  | .job _ _ (.step s _ _) => mStep s
  | .job _ _ (.readyHead _) => 1
  | .job _ _ (.promiseHead _ _) => 2

theorem mWait_pos (w : Wait) : 1 ≤ mWait w := by
  cases w with
  | promise p f => simp [mWait]
  | job jid k jk => cases jk <;> simp [mWait, mStep_pos]

def mFrames : List Frame → Nat
  | [] => 0
  | f :: fs => mSteps f.rest + mFrames fs

def mT (t : Thread) : Nat := mWait t.wait + mSteps t.rest + mFrames t.outer

theorem mFrames_append (a b : List Frame) : mFrames (a ++ b) = mFrames a + mFrames b := by
  induction a with
  | nil => simp [mFrames]
  | cons f fs ih => simp [mFrames, ih]; omega

/-- the text in front of the outcome of a cascade (for a finished one: the continuations `k` not taken along), plus
    `extra` set aside for the text behind it, is at most `B` -/
def SizeOut (B extra : Nat) (k : List Step) : Out → Prop
  | .done _ _ _ _ => mSteps k + extra ≤ B
  | .parked t _ => mT t + extra ≤ B
  | .crash _ => True

theorem startSrc_size (cfg : Cfg) (src : Src) (ctx : Option Nat) (g : G) :
    match startSrc cfg src ctx g with
    | .wait w _ _ => mWait w ≤ mSrc src
    | _ => True := by
  cases src with
  | promiseFn e p f =>
    simp only [startSrc]
    cases submit cfg e ctx g <;> simp [mWait, mSrc]
  | ready r => simp [startSrc]
  | contract p f => simp [startSrc, mWait, mSrc]
  | contractOn e p f => simp [startSrc, mWait, mSrc]
  | unit => simp [startSrc]
  | sharedReady r => simp [startSrc]
  | sharedContract p f => simp [startSrc, mWait, mSrc]
  | sharedKept e p f pre => cases h : g.isSet p pre <;> simp [startSrc, h, mWait, mSrc]

theorem asyncFinish_size (ty : Nat) (own : Exec) (k : List Step) (lazy : Bool) (ctx : Option Nat) (o : Out)
    (B extra : Nat) (h : SizeOut B (mSteps k + extra) [] o) : SizeOut B extra k (asyncFinish ty own k lazy ctx o) := by
  cases o with
  | done r inh c g =>
    simp only [SizeOut, mSteps] at h
    cases lazy <;> simp [asyncFinish, SizeOut] <;> omega
  | parked t g =>
    simp only [SizeOut] at h
    cases lazy <;> simp [asyncFinish, SizeOut, mT, mFrames_append, mFrames] at h ⊢ <;> omega
  | crash g => simp [asyncFinish, SizeOut]

/-- the measure as a family closed under the interpreter's moves, at index `(B, extra)`.  A step that is called is
    consumed: `Call` is one above the bound its outcome meets. -/
def measureClosed (cfg : Cfg) : Closed cfg (Nat × Nat) where
  Run p ss _ _ := mSteps ss + p.2 ≤ p.1
  Call p s k _ _ _ _ := mStep s + mSteps k + p.2 ≤ p.1 + 1
  Start p src steps _ := mSrc src + mSteps steps + p.2 ≤ p.1
  Post p k o := SizeOut p.1 p.2 k o
  nil _ _ _ h := h
  next {_ _ o} h := by cases o <;> exact h
  direct _ h := by rw [mSteps] at h; omega
  sub {_ _ _ _ _} _ _ _ h := by
    rw [mSteps] at h
    split
    · omega
    · omega
    · simp only [SizeOut, mT, mWait, mFrames]; omega
  invoke h := h
  done {_ id sig mode beh _ _ _ _ _} _ _ _ h := by
    have := mStep_pos (.mk id sig mode beh)
    simp only [SizeOut]; omega
  async {p _ _ _ _ lazy _ k _ _ ctx _} own h := by
    rw [mStep_async] at h
    exact ⟨(p.1, mSteps k + p.2), by show _ + _ + (_ + _) ≤ _; omega, fun o ho => asyncFinish_size _ own k lazy ctx o p.1 p.2 ho⟩
  start {_ src _ g} ctx h := by
    have hs := startSrc_size cfg src ctx g
    split <;> rename_i heq <;> rw [heq] at hs <;> simp only [SizeOut, mT, mFrames] at hs ⊢ <;> omega
  ready _ _ h := by
    simp only [mSrc] at h
    split
    · omega
    · omega
    · simp only [SizeOut, mT, mWait, mFrames]; omega

/-- strict: the step itself is consumed -/
theorem callStep_size (cfg : Cfg) (s : Step) (k : List Step) (hd dropped : Bool) (ctx : Option Nat) (via : Option Exec)
    (input0 : R) (own : Exec) (g : G) (B extra : Nat) (h : mStep s + mSteps k + extra ≤ B) :
    SizeOut B (extra + 1) k (callStep cfg s k hd dropped ctx via input0 own g) :=
  (measureClosed cfg).callStep_post s k hd dropped ctx via input0 own g (B, extra + 1) (Nat.succ_le_succ h)

theorem runSteps_size (cfg : Cfg) (ss : List Step) (hd flow : Bool) (ctx : Option Nat) (r : R) (inh : Exec) (g : G)
    (B extra : Nat) (h : mSteps ss + extra ≤ B) : SizeOut B extra [] (runSteps cfg ss hd flow ctx r inh g) :=
  (measureClosed cfg).runSteps_post ss hd flow ctx r inh g (B, extra) h

theorem unwind_size (cfg : Cfg) : ∀ (fs : List Frame) (o : Out) (B extra : Nat),
    SizeOut B (mFrames fs + extra) [] o → SizeOut B extra [] (unwind cfg fs o)
  | [], o, B, extra, h => by cases o <;> simpa [unwind, mFrames] using h
  | f0 :: fs, .done r inh c' g, B, extra, h => by
    simp only [SizeOut, mFrames, mSteps] at h
    simp only [unwind]
    apply unwind_size cfg fs _ B extra
    exact runSteps_size cfg f0.rest false true c' r f0.own _ B _ (by omega)
  | f0 :: fs, .parked t g, B, extra, h => by
    simp only [SizeOut] at h
    simp only [unwind, SizeOut, mT, mFrames_append]
    simp only [mT] at h
    omega
  | f0 :: fs, .crash g, B, extra, _ => trivial

/-- strict: the wait is consumed -/
theorem fire_size (cfg : Cfg) (t : Thread) (ctx : Option Nat) (g : G) (B extra : Nat)
    (hb : mWait t.wait + mSteps t.rest + extra ≤ B) : SizeOut B (extra + 1) t.rest (fire cfg t ctx g) := by
  unfold fire
  cases hwt : t.wait with
  | promise p fl =>
    rw [hwt] at hb
    simp only [mWait] at hb
    simp only [SizeOut]; omega
  | job jid k jk =>
    rw [hwt] at hb
    cases jk with
    | step s input hd =>
      simp only [mWait] at hb
      exact callStep_size cfg s t.rest hd false (some k) (some t.inh) input t.inh _ B extra hb
    | readyHead r =>
      simp only [mWait] at hb
      simp only [SizeOut]; omega
    | promiseHead p fl =>
      simp only [mWait] at hb
      simp only [SizeOut, mT, mWait, mFrames]
      omega

/-- **every delivery strictly decreases the measure** -/
theorem resume_size (cfg : Cfg) (t : Thread) (ctx : Option Nat) (g : G) :
    SizeOut (mT t) 1 [] (resume cfg t ctx g) := by
  have hf := fire_size cfg t ctx g (mT t) (mFrames t.outer) (by simp only [mT]; omega)
  rw [resume_eq]
  exact unwind_size cfg t.outer _ (mT t) 1 ((measureClosed cfg).andThen_post (p := (mT t, _)) hf)

/-- what the suspended pipeline waits for -/
def Thread.delivery (t : Thread) : Event :=
  match t.wait with
  | .promise q _ => .set q
  | .job _ k _ => .call k

/-- measure of a whole state: 0 when nothing is suspended -/
def State.measure (st : State) : Nat :=
  if st.crashed then 0 else
  match st.ctl with
  | .pending t => mT t
  | _ => 0

/-- delivering what a suspended pipeline waits for strictly decreases the measure -/
theorem delivery_decreases (cfg : Cfg) (st : State) (t : Thread) (hc : st.crashed = false) (ht : st.ctl = .pending t) :
    (mech cfg st t.delivery).measure < st.measure := by
  have hpos : 1 ≤ mT t := by have := mWait_pos t.wait; simp only [mT]; omega
  have hm : st.measure = mT t := by simp [State.measure, hc, ht]
  rw [hm]
  have key : ∀ (ctx : Option Nat) (st' : State) (g' : G), st'.crashed = false →
      (settle st' (resume cfg t ctx g')).measure < mT t := by
    intro ctx st' g' hc
    have hs := resume_size cfg t ctx g'
    cases hr : resume cfg t ctx g' with
    | done r inh c g =>
      simp only [settle]
      split <;> simp [State.measure, hc] <;> omega
    | parked t' g =>
      rw [hr] at hs
      simp only [SizeOut] at hs
      simp only [settle, State.measure, hc, Bool.false_eq_true, ite_false]
      omega
    | crash g => simp [settle, State.measure]; omega
  unfold Thread.delivery
  cases hw : t.wait with
  | promise q f =>
    have : mech cfg st (.set q) = settle { st with g := st.g.markSet q } (resume cfg t none (st.g.markSet q)) := by
      simp [mech, hc, ht, hw]
    rw [this]; exact key none _ _ hc
  | job jid k jk =>
    have : mech cfg st (.call k) = settle st (resume cfg t (some k) st.g) := by simp [mech, hc, ht, hw]
    rw [this]; exact key (some k) _ _ hc

/-- keep delivering: the state after n deliveries -/
def deliverN (cfg : Cfg) : Nat → State → State
  | 0, st => st
  | n + 1, st =>
    if st.crashed then st else
    match st.ctl with
    | .pending t => deliverN cfg n (mech cfg st t.delivery)
    | _ => st

/-- **finitely many deliveries bring every suspended pipeline to rest** (at most `measure` many) -/
theorem comes_to_rest (cfg : Cfg) : ∀ (n : Nat) (st : State), st.measure ≤ n →
    (deliverN cfg n st).crashed = true ∨ ∀ t, (deliverN cfg n st).ctl ≠ .pending t
  | 0, st, h => by
    simp only [deliverN]
    by_cases hc : st.crashed = true
    · exact Or.inl hc
    · right
      intro t ht
      have hc' : st.crashed = false := by simpa using hc
      have : st.measure = mT t := by simp [State.measure, hc', ht]
      have hpos : 1 ≤ mT t := by have := mWait_pos t.wait; simp only [mT]; omega
      omega
  | n + 1, st, h => by
    simp only [deliverN]
    by_cases hc : st.crashed = true
    · rw [if_pos hc]; exact Or.inl hc
    · have hc' : st.crashed = false := by simpa using hc
      simp only [hc', Bool.false_eq_true, ite_false]
      cases hctl : st.ctl with
      | pending t =>
        simp only []
        have := delivery_decreases cfg st t hc' hctl
        exact comes_to_rest cfg n _ (by omega)
      | idle => right; intro t ht; simp only [] at ht; rw [hctl] at ht; cases ht
      | task src steps => right; intro t ht; simp only [] at ht; rw [hctl] at ht; cases ht
      | future r inh => right; intro t ht; simp only [] at ht; rw [hctl] at ht; cases ht
      | gone => right; intro t ht; simp only [] at ht; rw [hctl] at ht; cases ht

end Yaclib.Pipeline
