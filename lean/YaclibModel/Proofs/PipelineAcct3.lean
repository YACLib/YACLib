/- callStep / runSteps keep the books balanced. -/
import YaclibModel.Proofs.PipelineAcct2
import YaclibModel.Proofs.PipelineInd

namespace Yaclib.Pipeline
open Yaclib.Extracted

theorem wfStep_async (id : Nat) (sig : Sig) (m : Mode) (src : Src) (lazy : Bool) (steps : List Step)
    (h : wfStep (.mk id sig m (.async src lazy steps)) = true) :
    ((src == Src.unit) = true → steps ≠ []) ∧ wfSteps steps = true := by
  rw [wfStep] at h
  simp only [Bool.and_eq_true, Bool.or_eq_true, Bool.not_eq_true'] at h
  refine ⟨fun hu => ?_, h.2⟩
  cases h.1 with
  | inl h1 => rw [hu] at h1; cases h1
  | inr h1 => intro he; rw [he] at h1; simp at h1

/-- the balance as a family closed under the interpreter's moves, at index `(c, f)`: the cores and functors alive that
    belong to the text behind.  A source that is about to start owns its core, its functor and those of its steps. -/
def acctClosed (cfg : Cfg) : Closed cfg (Nat × Nat) where
  Run p ss hd g := wfSteps ss = true ∧ (hd = true → ss ≠ []) ∧
    Bal g (p.1 + (if hd then 0 else 1) + ss.length) (p.2 + ss.length)
  Call p s k hd _ _ g := wfStep s = true ∧ wfSteps k = true ∧
    Bal g (p.1 + (if hd then 1 else 2) + k.length) (p.2 + 1 + k.length)
  Start p src steps g := wfSteps steps = true ∧ ((src == Src.unit) = true → steps ≠ []) ∧
    Bal g (p.1 + srcCores src + steps.length) (p.2 + srcFunctors src + steps.length)
  Post p k o := wfSteps k = true ∧ AcctOut p.1 p.2 k o
  nil {_ hd _} _ _ _ h := by
    cases hd with
    | true => exact ((h.2.1 rfl) rfl).elim
    | false => exact ⟨rfl, by simpa [AcctOut] using h.2.2⟩
  next {_ _ o} h := by
    cases o with
    | done r inh c g => exact ⟨h.1, fun h => Bool.noConfusion h, by simpa [AcctOut] using h.2⟩
    | parked t g => exact ⟨rfl, h.2⟩
    | crash g => exact ⟨rfl, h.2⟩
  direct {_ _ _ hd _} _ h := by
    obtain ⟨hw, _, hb⟩ := h
    rw [wfSteps, Bool.and_eq_true] at hw
    refine ⟨hw.1, hw.2, ?_⟩
    simp only [Bal, List.length_cons] at hb ⊢
    cases hd <;> simp at hb ⊢ <;> omega
  sub {_ _ _ hd g} own ctx _ h := by
    obtain ⟨hw, _, hb⟩ := h
    rw [wfSteps, Bool.and_eq_true] at hw
    have hc := cnt_submit cfg own ctx g
    simp only [Bal, List.length_cons] at hb
    split <;> rename_i heq <;> rw [heq] at hc
    · refine ⟨hw.1, hw.2, ?_⟩
      simp only [Bal, hc]
      cases hd <;> simp at hb ⊢ <;> omega
    · refine ⟨hw.1, hw.2, ?_⟩
      simp only [Bal, hc]
      cases hd <;> simp at hb ⊢ <;> omega
    · simp only [AcctOut, Bal, coresT, funsT, coresWait, funsWait, coresFrames, funsFrames, wfThread, wfWait, wfFrames,
        hw.1, hw.2, hc]
      refine ⟨rfl, ?_, by simp⟩
      cases hd <;> simp at hb ⊢ <;> omega
  invoke h := h
  done {_ _ _ _ _ _ hd _ _ _} _ _ _ h := by
    obtain ⟨_, hk, hb⟩ := h
    refine ⟨hk, ?_⟩
    simp only [AcctOut, Bal, cnt_doneAcct]
    simp only [Bal] at hb
    cases hd <;> simp at hb ⊢ <;> omega
  async {p id sig mode src lazy steps k hd _ ctx _} own h := by
    obtain ⟨hs, hk, hb⟩ := h
    obtain ⟨hne, hsteps⟩ := wfStep_async _ _ _ _ _ _ hs
    simp only [Bal] at hb
    cases lazy with
    | false =>
      refine ⟨(p.1 + (if hd then 1 else 2) + k.length, p.2 + 1 + k.length), ⟨hsteps, hne, ?_⟩,
        fun o ho => ⟨hk, asyncFinish_acct_eager mode hd own k ctx o p.1 p.2 hk ho.2⟩⟩
      simp only [innerG, Bool.false_eq_true, ite_false, Bal, cnt_allocFunctor, cnt_allocCore]
      omega
    | true =>
      refine ⟨(p.1 + 1 + k.length, p.2 + k.length), ⟨hsteps, hne, ?_⟩,
        fun o ho => ⟨hk, asyncFinish_acct_lazy _ own k ctx o p.1 p.2 hk ho.2⟩⟩
      simp only [innerG, ite_true, Bal, cnt_asyncRetAcct, cnt_allocFunctor, cnt_allocCore]
      cases hd <;> simp at hb ⊢ <;> omega
  start {_ src _ g} ctx h := by
    obtain ⟨hsteps, hne, hb⟩ := h
    have hs := startSrc_acct cfg src ctx g
    simp only [Bal] at hb
    split <;> rename_i heq <;> rw [heq] at hs
    · refine ⟨hsteps, hne, ?_⟩
      simp only [Bal, hs]
      rw [srcCores_eq] at hb
      cases hu : (src == Src.unit) <;> simp [hu] at hb ⊢ <;> omega
    · obtain ⟨h1, h2, h3, h4, h5⟩ := hs
      simp only [AcctOut, Bal, h1, coresT, funsT, coresFrames, funsFrames, h3, wfThread, wfFrames, h5, hsteps]
      rw [h4] at hb
      refine ⟨rfl, ?_, by simp⟩
      simp at hb ⊢
      omega
    · exact ⟨rfl, trivial⟩
  ready {_ _ _ g} e ctx h := by
    obtain ⟨hsteps, _, hb⟩ := h
    have hc := cnt_submit cfg e ctx g
    simp only [Bal, srcCores, srcFunctors] at hb
    split <;> rename_i heq <;> rw [heq] at hc
    · exact ⟨hsteps, fun h => Bool.noConfusion h, by simp only [Bal, hc]; simp at hb ⊢; omega⟩
    · exact ⟨hsteps, fun h => Bool.noConfusion h, by simp only [Bal, hc]; simp at hb ⊢; omega⟩
    · simp only [AcctOut, Bal, hc, coresT, funsT, coresWait, funsWait, coresFrames, funsFrames, wfThread, wfWait, wfFrames,
        hsteps]
      refine ⟨rfl, ?_, by simp⟩
      simp at hb ⊢
      omega

theorem callStep_acct (cfg : Cfg) (s : Step) (k : List Step) (hd dropped : Bool) (ctx : Option Nat) (via : Option Exec)
    (input0 : R) (own : Exec) (g : G) (c f : Nat) (hs : wfStep s = true) (hk : wfSteps k = true)
    (hb : Bal g (c + (if hd then 1 else 2) + k.length) (f + 1 + k.length)) :
    AcctOut c f k (callStep cfg s k hd dropped ctx via input0 own g) :=
  ((acctClosed cfg).callStep_post s k hd dropped ctx via input0 own g (c, f) ⟨hs, hk, hb⟩).2

theorem runSteps_acct (cfg : Cfg) (ss : List Step) (hd flow : Bool) (ctx : Option Nat) (r : R) (inh : Exec) (g : G)
    (c f : Nat) (hw : wfSteps ss = true) (hne : hd = true → ss ≠ [])
    (hb : Bal g (c + (if hd then 0 else 1) + ss.length) (f + ss.length)) :
    AcctOut c f [] (runSteps cfg ss hd flow ctx r inh g) :=
  ((acctClosed cfg).runSteps_post ss hd flow ctx r inh g (c, f) ⟨hw, hne, hb⟩).2

end Yaclib.Pipeline
