import YaclibModel.Proofs.Shared
namespace Yaclib.Shared
open Auto

theorem invA_step {w s l s'} (hi : InvA w s) (hs : Step s l s') : InvA w s' := by
  cases hs with
  | oLoad t op rest k x h ht hk hr hx | oCasOk t c e h hw | oCasFail t c e x h hw hx | oCasSpur t c e x h hw hx =>
      -- the effect branches on the word read (on the kind of the callback, for `oCasOk`), then on the kind
      simp only [doLoad, doCasOk, reload, failPath]
      split
      · inv_auto
      · split <;> inv_auto
  | _ => inv_auto

end Yaclib.Shared
