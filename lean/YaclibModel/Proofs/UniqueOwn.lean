/- C03 on the C01 model (Model/Unique.lean): ownership of the unique core.

   A unique core has no counter (`DecRef` = delete); its release is folded into the step that produces the outcome the
   consumer asked for: `Get() &&` returned (`got`), the `Connect` target was fulfilled (`forwarded`), the Drop core ran
   (`dropped`), the continuation was invoked (`delivered`; `Core::Done` releases the caller after the body).
   `Own` says that such a step is the last one that touches the core: the producer has left `SetResultImpl`, and — except
   for a continuation, which only reads the Result of its caller — the result storage has been destroyed / moved out.
   Proved on top of `Inv` (Proofs/UniqueInv.lean) and `Inv2` (Proofs/UniqueInv2.lean). -/
import YaclibModel.Proofs.UniqueInv2

namespace Yaclib.Unique

structure Own (s : State) : Prop where
  got_done : s.got ≠ [] → s.ppc = .done ∧ s.stored = none
  fwd_done : s.forwarded ≠ [] → s.ppc = .done ∧ s.stored = none
  drop_done : s.dropped ≠ [] → s.ppc = .done ∧ s.stored = none

theorem own_init (w : Workload) : Own (init w) := by
  constructor <;> simp [init]

section
open Auto
attribute [local grind →] Own.got_done Own.fwd_done Own.drop_done

theorem own_step {w s l s'} (hi : Inv w s) (ho : Own s) (hs : Step s l s') : Own s' := by
  -- all that is needed of `Inv`: a step that produces an outcome starts where the producer is at `done`
  have hidle := hi.idle_word
  have hattl := hi.c_attl
  have hafter := hi.c_after
  clear hi
  cases hs <;> inv_auto

end

theorem own_reachable {w s} (h : Reachable w s) : Own s := by
  induction h with
  | init => exact own_init w
  | step hr hs ih => exact own_step (inv_reachable hr) ih hs

/-- the outcome the consumer asked for has happened: the core has been released -/
theorem released_facts {w s} (h : Reachable w s) (h1 : outcomeCount w s = 1) :
    s.ppc = .done ∧ s.cpc = .idle ∧ s.todo = [] ∧ ((∀ b, w.fin ≠ .attach b) → s.stored = none) := by
  have hi := inv_reachable h
  have h2 := inv2_reachable h
  have ho := own_reachable h
  have hne : ∀ {α} (l : List α), l.length = 1 → l ≠ [] := by
    intro α l hl hn; rw [hn] at hl; cases hl
  have hcons := h2.conserve
  have htodo : s.todo = [] := by
    by_cases ht : s.todo = []
    · exact ht
    · simp only [ht, ↓reduceIte] at hcons; omega
  have hcpc : s.cpc = .idle := by
    apply Classical.byContradiction
    intro hc
    exact hi.busy_todo hc htodo
  have key : s.ppc = .done ∧ ((∀ b, w.fin ≠ .attach b) → s.stored = none) := by
    unfold outcomeCount at h1
    cases hf : w.fin with
    | attach b =>
        rw [hf] at h1
        simp only at h1
        rcases hi.delivered_one with h0 | h0
        · rw [h0] at h1; cases h1
        · exact ⟨h0.2.2, fun hb => absurd rfl (hb b)⟩
    | drop => rw [hf] at h1; exact ⟨(ho.drop_done (hne _ h1)).1, fun _ => (ho.drop_done (hne _ h1)).2⟩
    | getMove => rw [hf] at h1; exact ⟨(ho.got_done (hne _ h1)).1, fun _ => (ho.got_done (hne _ h1)).2⟩
    | connect => rw [hf] at h1; exact ⟨(ho.fwd_done (hne _ h1)).1, fun _ => (ho.fwd_done (hne _ h1)).2⟩
  exact ⟨key.1, hcpc, htodo, key.2⟩

/-- after the release no step of either thread is enabled: nothing touches the word, the storage or the event any more -/
theorem no_step_after_release {w s} (h : Reachable w s) (h1 : outcomeCount w s = 1) : ∀ l s', ¬ Step s l s' := by
  obtain ⟨hp, hc, ht, _⟩ := released_facts h h1
  intro l s' hs
  cases hs <;> simp_all

/-- any entry in one of the outcome histories is the outcome the consumer asked for, and it happened exactly once -/
theorem outcome_of_history {w s} (h : Reachable w s)
    (hne : s.delivered ≠ [] ∨ s.got ≠ [] ∨ s.forwarded ≠ [] ∨ s.dropped ≠ []) : outcomeCount w s = 1 := by
  have h2 := inv2_reachable h
  have hle : outcomeCount w s ≤ 1 := by have := h2.conserve; omega
  have hpos : ∀ {α} (l : List α), l ≠ [] → 0 < l.length := fun l hl => List.length_pos_iff.mpr hl
  unfold outcomeCount at hle ⊢
  rcases hne with hne | hne | hne | hne
  · cases hf : w.fin with
    | attach b => rw [hf] at hle; have := hpos _ hne; simp only at hle ⊢; omega
    | _ => exact absurd (h2.only_deliver (by rw [hf]; simp)) hne
  · cases hf : w.fin with
    | getMove => rw [hf] at hle; have := hpos _ hne; simp only at hle ⊢; omega
    | _ => exact absurd (h2.only_got (by rw [hf]; simp)) hne
  · cases hf : w.fin with
    | connect => rw [hf] at hle; have := hpos _ hne; simp only at hle ⊢; omega
    | _ => exact absurd (h2.only_fwd (by rw [hf]; simp)) hne
  · cases hf : w.fin with
    | drop => rw [hf] at hle; have := hpos _ hne; simp only at hle ⊢; omega
    | _ => exact absurd (h2.only_drop (by rw [hf]; simp)) hne

/-- a step changes the result storage only by constructing it (it was `none`) or as part of an outcome step -/
theorem stored_change {w s l s'} (hi : Inv w s) (hs : Step s l s') :
    s'.stored = s.stored ∨ s.stored = none ∨ s'.got ≠ [] ∨ s'.forwarded ≠ [] ∨ s'.dropped ≠ [] := by
  cases hs with
  | pXchg h hw =>
      right; left
      cases hst : s.stored with
      | none => rfl
      | some r => exact absurd (hi.stored_val r hst).2 hw
  | cAttLoad op rest k x h ht hk hx =>
      by_cases hxe : x = .empty
      · simp [doAttLoad, hxe]
      · cases k <;> simp [doAttLoad, hxe, afterFail] <;> split <;> simp
  | cCasOk k h hw => cases k <;> simp [doCasOk]
  | cCasFail k h hw => cases k <;> simp [afterFail] <;> split <;> simp
  | cWaitDone h => simp only [doCWaitDone]; split <;> simp
  | _ => simp [doPInvoke, doPForward, doPEvLock, doCInvoke, doCForward, doCReady, doCGetc, doCGot]

end Yaclib.Unique
