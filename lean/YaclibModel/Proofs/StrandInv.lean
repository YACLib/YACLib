/- C07 model: the three invariants hold in every reachable state. -/
import YaclibModel.Proofs.StrandDrop
namespace Yaclib.Strand

structure Inv (w : Workload) (s : State) : Prop where
  tok : InvTok w s
  ord : InvOrd w s
  drop : InvDrop w s

theorem inv_init (w : Workload) : Inv w (init w) := ⟨invTok_init w, invOrd_init w, invDrop_init w⟩

theorem inv_step {w s l s'} (hi : Inv w s) (hs : Step s l s') : Inv w s' :=
  ⟨invTok_step hi.tok hs, invOrd_step hi.tok hi.ord hs, invDrop_step hi.tok hi.ord hi.drop hs⟩

theorem inv_reachable {w s} (h : Reachable w s) : Inv w s := by
  induction h with
  | init => exact inv_init w
  | step _ hs ih => exact inv_step ih hs

end Yaclib.Strand
