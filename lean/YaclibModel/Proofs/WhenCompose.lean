/- WhenU (Model/WhenCompose.lean): per-instance facts and frame lemmas. -/
import YaclibModel.Model.WhenCompose
import YaclibModel.Proofs.WhenSpec
import YaclibModel.Proofs.UniqueProgress

namespace Yaclib.WhenU
open Yaclib

/-- what a Unique instance with the program `[attach]` can look like -/
structure UOk (u : Unique.State) : Prop where
  cpc : u.cpc = .idle ∨ u.cpc = .attLoaded .cont ∨ u.cpc = .attFailed .cont
  todo : (u.todo = [.fin (.attach false)]) ∨ (u.todo = [] ∧ u.cpc = .idle)
  word : u.word = .empty ∨ u.word = .cb .cont ∨ u.word = .result
  ppc : u.ppc = .start ∨ u.ppc = .fire .cont ∨ u.ppc = .done
  via : u.viaExec = false

/-- the labels of a Unique instance that the composition uses -/
def used : Unique.Label → Bool
  | .pXchg _ => true
  | .cLoad _ => true
  | .cCas .cont _ => true
  | .invoke _ _ => true
  | _ => false

theorem uok_init (w : When.Workload) (i : Nat) : UOk (Unique.init (wU w i)) := by
  constructor <;> simp [Unique.init, wU]

theorem uok_step {u u' : Unique.State} {l : Unique.Label} (hk : UOk u) (hs : Unique.Step u l u') (hl : used l = true) :
    UOk u' := by
  obtain ⟨h1, h2, h3, h4, h5⟩ := hk
  cases hs <;> (try (simp [used] at hl; done)) <;>
    (constructor <;>
      (try simp only [Unique.doXchg, Unique.doPInvoke, Unique.doAttLoad, Unique.doCasOk, Unique.doCInvoke, Unique.afterFail,
        Unique.opCb, Unique.finCb, used] at *) <;>
      grind)

/-- the steps of the combinator that are not interface events leave the interface state of every input alone -/
theorem when_frame {w : When.Workload} {s s' : When.State} {l : When.Label} (hs : When.Step w s l s') (hl : isEnv l = false) :
    s'.reg = s.reg ∧ s'.consumed = s.consumed ∧ (∀ i, s'.pc i = .pending ↔ s.pc i = .pending) ∧
    (∀ i, s'.pc i = .unreg ↔ s.pc i = .unreg) := by
  cases hs with
  | regSet i okb hc hb hr hn => simp [isEnv] at hl
  | fire i hc hp => simp [isEnv] at hl
  | retire i hc hp =>
      have h2 := When.afterRetire_cases w.strat (w.inp i)
      simp only [When.doRetire]; grind [= When.upd_apply]
  | loadFlag i b hc hp hs hb =>
      have h3 := When.lose_cases w.strat
      cases b <;> simp only [When.doLoadFlag, When.setPc] <;> grind [= When.upd_apply]
  | xchgFlag i hc hp hs =>
      have h3 := When.lose_cases w.strat
      cases hf : s.flag <;> simp only [When.doXchgFlag, hf] <;> grind [= When.upd_apply]
  | setOut i o hc hp => simp only [When.doSetOut]; grind [= When.upd_apply]
  | load3 i x hc hp hs hx =>
      cases hv : When.ok (w.inp i) <;> cases x <;> simp only [When.doLoad3, hv, When.setPc] <;> grind [= When.upd_apply]
  | xchg3 i hc hp hs hv =>
      by_cases hf : s.st3 = .value <;> simp only [When.doXchg3, hf] <;> grind [= When.upd_apply]
  | cas3 i hc hp hs hv =>
      by_cases hf : s.st3 = .empty <;> simp only [When.doCas3, hf] <;> grind [= When.upd_apply]
  | loadLf i d hc hp hs hd => cases d <;> simp only [When.doLoadLf, When.setPc] <;> grind [= When.upd_apply]
  | xchgLf i hc hp hs hv =>
      by_cases hf : s.lf % 2 = 0 <;> simp only [When.doXchgLf, hf] <;> grind [= When.upd_apply]
  | fsubLf i hc hp hs hv =>
      by_cases hf : s.lf = 2 <;> simp only [When.doFsubLf, hf] <;> grind [= When.upd_apply]
  | dec i store hc hp =>
      have h1 := When.dtorStart_cases w.strat s.pValid
      by_cases hc1 : s.count = 1
      · rcases h1 with h1 | h1 | h1 <;> simp only [When.doDec, hc1, h1.1, if_true, When.setPc, When.finish] <;>
          grind [= When.upd_apply]
      · simp only [When.doDec, hc1, if_false, When.finish]; grind [= When.upd_apply]
  | dtorRel i j hc hp =>
      simp only [When.doDtorRel]
      split <;> (try split) <;> (try split) <;> (try split) <;> simp only [When.setPc, When.finish] <;> grind [= When.upd_apply]
  | dtorSet i o hc hp ho => simp only [When.doDtorSet, When.finish]; grind [= When.upd_apply]
  | dtorThrow i hc hp ho => simp only [When.setPc]; grind [= When.upd_apply]
  | crash i hc hp => simp

/-- closes a coupling invariant `K … S'` after a step of the composition: one goal per clause, the effects of the step on the
    combinator and on the instance unfolded in the goal, the coupling of the pre-state folded among the hypotheses -/
macro "kauto" : tactic =>
  `(tactic| (constructor <;>
      (try simp only [Unique.doPInvoke, Unique.doCInvoke, Unique.doCasOk, Unique.afterFail, When.doRegSet, When.doFire,
        Bool.false_eq_true, if_false, if_true]) <;> grind))

end Yaclib.WhenU
