/- Invariants of the C07 model, part 2: order of pushes, of batches and of execution. -/
import YaclibModel.Proofs.Strand

namespace Yaclib.Strand

/-- jobs of the same submitter appear in program order -/
def sameSubLt (a b : JobId) : Prop := a.sub = b.sub → a.idx < b.idx

/-- the jobs taken by Call activations, in push order -/
def calls (l : List (JobId × Bool)) : List JobId := (l.filter (·.2)).map Prod.fst
def fsts (l : List (JobId × Bool)) : List JobId := l.map Prod.fst

theorem calls_append_true (l : List (JobId × Bool)) (b : List JobId) :
    calls (l ++ b.map (tag true)) = calls l ++ b := by
  simp [calls, tag, List.filter_map, List.map_map, Function.comp_def]

theorem calls_append_false (l : List (JobId × Bool)) (b : List JobId) :
    calls (l ++ b.map (tag false)) = calls l := by
  simp [calls, tag, List.filter_map, Function.comp_def]

theorem fsts_append (l : List (JobId × Bool)) (b : List JobId) (x : Bool) :
    fsts (l ++ b.map (tag x)) = fsts l ++ b := by
  simp [fsts, tag, List.map_map, Function.comp_def]

theorem mem_map_tag {l : List JobId} {b : Bool} {p : JobId × Bool} (h : p ∈ l.map (tag b)) : p.2 = b ∧ p.1 ∈ l := by
  simp only [List.mem_map, tag] at h
  obtain ⟨x, hx, rfl⟩ := h
  exact ⟨rfl, hx⟩

theorem calls_sublist (l : List (JobId × Bool)) : (calls l).Sublist (fsts l) := by
  unfold calls fsts
  exact List.Sublist.map _ List.filter_sublist

theorem mem_calls {l : List (JobId × Bool)} {j : JobId} : j ∈ calls l ↔ (j, true) ∈ l := by
  simp [calls]

theorem mem_fsts {l : List (JobId × Bool)} {j : JobId} : j ∈ fsts l ↔ (j, true) ∈ l ∨ (j, false) ∈ l := by
  simp only [fsts, List.mem_map]
  constructor
  · rintro ⟨⟨j', b⟩, hm, rfl⟩
    cases b
    · exact Or.inr hm
    · exact Or.inl hm
  · rintro (h | h)
    · exact ⟨_, h, rfl⟩
    · exact ⟨_, h, rfl⟩

structure InvOrd (w : Workload) (s : State) : Prop where
  push_lt : ∀ j ∈ s.pushOrder, j.idx < s.sidx j.sub
  push_mem : ∀ i k, k < s.sidx i → (⟨i, k⟩ : JobId) ∈ s.pushOrder
  push_pw : s.pushOrder.Pairwise sameSubLt
  /-- every successful push is either already taken by an exchange or still in the inbox, in push order -/
  order : s.pushOrder = fsts s.taken ++ s.word.inbox.reverse
  /-- what was taken by Call activations is exactly what has been executed, plus the rest of the current batch -/
  exec_eq : calls s.taken = s.executed ++ curRem s
  nodrop : s.execDrops = 0 → ∀ p ∈ s.taken, p.2 = true

theorem invOrd_init (w : Workload) : InvOrd w (init w) := by
  constructor <;> simp [init, calls, fsts, curRem, remOf, Word.inbox]

/- the clauses of `InvOrd`, the list-valued ones instantiated where the membership they speak of occurs; not in `Auto`, whose
   annotations of `InvTok` these proofs do not need -/
namespace OrdAuto
attribute [scoped grind →] InvOrd.push_pw InvOrd.order InvOrd.exec_eq
scoped grind_pattern InvOrd.push_lt => InvOrd w s, j ∈ s.pushOrder
scoped grind_pattern InvOrd.push_mem => InvOrd w s, (⟨i, k⟩ : JobId) ∈ s.pushOrder
scoped grind_pattern InvOrd.nodrop => InvOrd w s, p ∈ s.taken
attribute [scoped grind] upd curRem remOf callRem Word.inbox tag
attribute [scoped grind =] calls_append_true calls_append_false fsts_append
attribute [scoped grind →] mem_map_tag
end OrdAuto
open OrdAuto

macro "ord_auto" : tactic =>
  `(tactic| (constructor <;> simp only [doLoad, doCasOk, doSched, doCall, doBegin, doEnd, doALoad, doACasOk, doACasFail, doResub,
      doDropX, doDrop, curRem, upd] <;> grind))

theorem invOrd_step {w s l s'} (ht : InvTok w s) (hi : InvOrd w s) (hs : Step s l s') : InvOrd w s' := by
  cases hs with
  | sLoad i v h hj hv => ord_auto
  | sCasOk i exp h he =>
      have hcur : curRem (doCasOk s i exp) = curRem s := by
        by_cases hm : exp = .mark
        · subst hm
          have hwm : s.word = .mark := Word.head_eq_mark.mp he.symm
          have hh : s.holder = none := ht.tok_none.mpr hwm
          simp [curRem, remOf, doCasOk, hh]
        · simp [curRem, doCasOk, hm]
      constructor
      case push_pw =>
        simp only [doCasOk]
        rw [List.pairwise_append]
        refine ⟨hi.push_pw, by simp, ?_⟩
        intro a ha b hb
        simp at hb; subst hb
        intro hsub
        have := hi.push_lt a ha
        simp at hsub; rw [hsub] at this; exact this
      case exec_eq => rw [hcur]; simp only [doCasOk]; exact hi.exec_eq
      all_goals simp only [doCasOk, upd]; grind
  | sCasFail i exp v h hne hv => ord_auto
  | sCasSpur i exp h => exact hi
  | sSched i h =>
      have hh := (ht.tok_sub i).mp h
      ord_auto
  | aCall a h =>
      obtain ⟨j, js, hwd⟩ := word_nonempty_cases (ht.tok_act_word a (by rw [h]; rfl))
      have hh := (ht.tok_act a).mp (by rw [h]; rfl)
      simp only [doCall, hwd]; ord_auto
  | aBegin a j rem h =>
      have hh := (ht.tok_act a).mp (by rw [h]; rfl)
      ord_auto
  | aEnd a j rem h =>
      have hh := (ht.tok_act a).mp (by rw [h]; rfl)
      ord_auto
  | aLoad a sawNull h hv =>
      have hh := (ht.tok_act a).mp (by rw [h]; rfl)
      cases sawNull <;> ord_auto
  | aCasOk a h hw =>
      have hh := (ht.tok_act a).mp (by rw [h]; rfl)
      ord_auto
  | aCasFail a h hw =>
      have hh := (ht.tok_act a).mp (by rw [h]; rfl)
      ord_auto
  | aResub a h =>
      have hh := (ht.tok_act a).mp (by rw [h]; rfl)
      ord_auto
  | aDropX a h =>
      obtain ⟨j, js, hwd⟩ := word_nonempty_cases (ht.tok_act_word a (by rw [h]; rfl))
      have hh := (ht.tok_act a).mp (by rw [h]; rfl)
      simp only [doDropX, hwd]; ord_auto
  | aDrop a j rem h =>
      have hh : s.holder ≠ some (.act a) := fun hx => by
        have := (ht.tok_act a).mpr hx; rw [h] at this; cases this
      have hb := fun v => remOf_upd_other (acts := s.acts) (v := v) hh
      ord_auto

end Yaclib.Strand
