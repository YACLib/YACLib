/- C11 invariant: preservation by the return of a wait call and by the consuming operations -/
import YaclibModel.Proofs.WaitR

namespace Yaclib.Wait
open Auto
variable {w : Workload} {s : State}

theorem inv_wUnlockRet (hi : Inv w s) (b : Bool) (hp : s.wpc = .unlockRet b) : Inv w (doUnlockRet s b) := by
  have hal : s.alive = true := hi.alive_iff.mpr (by simp [hp, WPc.inCall])
  have hclean := hi.clean b hp
  have hev : ∀ j, (s.fut j).word ≠ .ev := fun j hw => (hclean j).1 (hi.g_ev hal j hw)
  have htk : ∀ j, (s.fut j).ppc ≠ .took := fun j hw => (hclean j).2.1 (hi.g_took hal j hw)
  unfold doUnlockRet toRet
  by_cases hg : s.inGet = true
  · have hig := hi.inget hg (Or.inl hal)
    have hfin := hi.inget_fin hg hal
    have hb : b = true := by
      cases b with
      | true => rfl
      | false => have := hi.ret_false (Or.inl hp); rw [hig.2.2.2] at this; cases this.1
    subst hb
    have hall := hi.ret_true (Or.inl hp)
    simp only [hg, ↓reduceIte]
    inv_fields_pc hi hp
  · simp only [hg, Bool.false_eq_true, ↓reduceIte]
    cases b
    · have hrf := hi.ret_false (Or.inl hp)
      inv_fields_pc hi hp
    · have hall := hi.ret_true (Or.inl hp)
      inv_fields_pc hi hp

theorem inv_wRet (hi : Inv w s) (b : Bool) (hp : s.wpc = .retn b) : Inv w (doRet s) := by
  have hct : s.calls.tail ≠ [] → s.calls ≠ [] := by
    intro h hc; rw [hc] at h; simp at h
  have hsub : ∀ c, c ∈ s.calls.tail → c ∈ s.calls := fun c h => List.mem_of_mem_tail h
  unfold doRet
  inv_fields_pc hi hp

theorem not_alive_idle (hi : Inv w s) {c : WPc} (hp : s.wpc = c) (hc : c.inCall = false) : s.alive = false := by
  cases ha : s.alive with
  | false => rfl
  | true => have := hi.alive_iff.mp ha; rw [hp, hc] at this; cases this

theorem inv_wFin (hi : Inv w s) (hp : s.wpc = .idle) (hc : s.calls = []) (hlt : s.fi < s.w.n) :
    Inv w (doFin s s.fi (s.w.fin s.fi)) := by
  have hal := not_alive_idle hi hp rfl
  have htodo := hi.todo s.fi (Nat.le_refl _)
  unfold doFin
  cases hk : s.w.fin s.fi with
  | none =>
      simp only
      inv_fields_pc_at hi hp s.fi
  | attach =>
      simp only
      inv_fields_pc hi hp
  | get =>
      simp only
      exact inv_begin hi s.fi (s.fi + 1) false true hp (by omega) (Nat.le_refl _) (by simp [hc])
        (fun _ => ⟨hc, rfl, rfl, rfl, hk, hlt⟩) (fun _ => by omega)

/-- a consuming attach that finds the word not empty finds the result -/
theorem att_full_ready (hi : Inv w s) (i : Nat) (hp : s.wpc = .att i ∨ s.wpc = .attCas i)
    (hne : (s.fut i).word ≠ .empty) : (s.fut i).word = .result := by
  have hal : s.alive = false := by
    rcases hp with hp | hp <;> exact not_alive_idle hi hp rfl
  have ha := hi.att_inv i (by rcases hp with hp | hp <;> simp [hp])
  have hd := hi.dead hal i
  have ht := hi.todo i (by omega)
  cases hw : (s.fut i).word with
  | result => rfl
  | empty => exact absurd hw hne
  | ev => exact absurd hw hd.1
  | cont => exact absurd hw ht.2.1

theorem inv_toAttCas (hi : Inv w s) (i : Nat) (hp : s.wpc = .att i) : Inv w { s with wpc := .attCas i } := by
  inv_fields_pc hi hp

theorem inv_toAttFail (hi : Inv w s) (i : Nat) (hp : s.wpc = .att i ∨ s.wpc = .attCas i)
    (hne : (s.fut i).word ≠ .empty) : Inv w { s with wpc := .attFail i } := by
  have hr := att_full_ready hi i hp hne
  rcases hp with hp | hp <;> inv_fields_pc hi hp

theorem inv_wAttCasOk (hi : Inv w s) (i : Nat) (hp : s.wpc = .attCas i) (hw : (s.fut i).word = .empty) :
    Inv w (doAttCasOk s i) := by
  have hal := not_alive_idle hi hp rfl
  have ha := hi.att_inv i (by simp [hp])
  have hc : ∀ a m, cntG (upd s.fut i { s.fut i with word := .cont, prev := .cont }) a m = cntG s.fut a m :=
    fun a m => cntG_upd_g rfl
  constructor <;> (try simp only [doAttCasOk, Ninn, Ntaken, Ndecd, Nback, hc, WPc.inCall, WPc.holds, WPc.postReg, WPc.early,
    WPc.preTimeout, WPc.timedOnly, WPc.resetting])
  inv_solve_pc_at hi hp i

/-- the waiter delivers future `i`'s result itself (continuation run inline / `Get` returned) -/
theorem inv_wDeliver (hi : Inv w s) (i : Nat) (hp : s.wpc = .attFail i ∨ s.wpc = .gotRep i) (hw : (s.fut i).word = .result) :
    Inv w (doDeliverW s i) := by
  have hal : s.alive = false := by
    rcases hp with hp | hp <;> exact not_alive_idle hi hp rfl
  have hfi : i = s.fi := by
    rcases hp with hp | hp
    · exact (hi.att_inv i (by simp [hp])).1
    · exact (hi.got_inv i hp).1
  have hfn : s.w.fin i ≠ .none := by
    rcases hp with hp | hp
    · rw [(hi.att_inv i (by simp [hp])).2.2]; simp
    · rw [(hi.got_inv i hp).2.2.2.1]; simp
  have hc : ∀ a m, cntG (upd s.fut i { s.fut i with ndel := (s.fut i).ndel + 1 }) a m = cntG s.fut a m :=
    fun a m => cntG_upd_g rfl
  rcases hp with hp | hp
  · constructor <;> (try simp only [doDeliverW, Ninn, Ntaken, Ndecd, Nback, hc, WPc.inCall, WPc.holds, WPc.postReg, WPc.early,
      WPc.preTimeout, WPc.timedOnly, WPc.resetting])
    inv_solve_pc_at hi hp i
  · constructor <;> (try simp only [doDeliverW, Ninn, Ntaken, Ndecd, Nback, hc, WPc.inCall, WPc.holds, WPc.postReg, WPc.early,
      WPc.preTimeout, WPc.timedOnly, WPc.resetting])
    inv_solve_pc_at hi hp i

end Yaclib.Wait
