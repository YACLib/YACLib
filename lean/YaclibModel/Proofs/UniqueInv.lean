/- The invariant `Inv` of the C01 model (Model/Unique.lean) and its preservation. -/
import YaclibModel.Model.Unique

namespace Yaclib.Unique

def cDone (s : State) : Prop := s.cpc = .idle ∧ s.todo = []

def inWait (c : CPc) : Prop := c = .waitAttached ∨ c = .waitLocked false ∨ c = .waitSleeping

/-- the consumer is at its consuming (last) operation -/
def atFin (s : State) : Prop := s.todo.tail = [] ∧ s.todo ≠ []

/-- the consumer program is `pre* ; fin` (or finished) -/
def Shape (t : List COp) : Prop := t = [] ∨ ∃ (pre : List Pre) (f : Fin), t = pre.map COp.pre ++ [COp.fin f]

theorem Shape.tail {t : List COp} (h : Shape t) : Shape t.tail := by
  rcases h with h | ⟨pre, f, h⟩
  · left; simp [h]
  · cases pre with
    | nil => left; simp [h]
    | cons o pre => right; exact ⟨pre, f, by simp [h]⟩

theorem Shape.fin_head {f : Fin} {rest : List COp} (h : Shape (COp.fin f :: rest)) : rest = [] := by
  rcases h with h | ⟨pre, g, h⟩
  · cases h
  · cases pre with
    | nil => simp at h; exact h.2
    | cons o pre => simp at h

theorem Shape.pre_head {o : Pre} {rest : List COp} (h : Shape (COp.pre o :: rest)) : rest ≠ [] := by
  rcases h with h | ⟨pre, g, h⟩
  · cases h
  · cases pre with
    | nil => simp at h
    | cons o' pre => simp at h; intro hr; rw [hr] at h; simp at h

/-- only the consuming operation attaches anything but the wait event -/
theorem Shape.attach_fin {t : List COp} {k : Cb} (h : Shape t) (hk : t.head?.bind opCb = some k) (hne : k ≠ .event) :
    t.tail = [] ∧ t ≠ [] := by
  cases t with
  | nil => simp at hk
  | cons op rest =>
      cases op with
      | pre o => cases o <;> simp [opCb] at hk; exact absurd hk.symm hne
      | fin f => simp [Shape.fin_head h]

theorem attach_event_head {t : List COp} (hk : t.head?.bind opCb = some .event) :
    t.head? = some (.pre .wait) ∨ t.head? = some (.fin .getMove) := by
  cases t with
  | nil => simp at hk
  | cons op rest =>
      cases op with
      | pre o => cases o <;> simp [opCb] at hk ⊢
      | fin f => cases f <;> simp [opCb, finCb] at hk ⊢

theorem Shape.pre_head' {t : List COp} {o : Pre} (h : Shape t) (ho : t.head? = some (.pre o)) : t.tail ≠ [] := by
  cases t with
  | nil => simp at ho
  | cons op rest => simp at ho; subst ho; simpa using Shape.pre_head h

theorem Shape.head_fin {t : List COp} {f : Fin} (h : Shape t) (hf : t.head? = some (.fin f)) : t = [.fin f] := by
  cases t with
  | nil => simp at hf
  | cons op rest => simp at hf; subst hf; simp [Shape.fin_head h]

theorem head_bind_cons {op : COp} {rest : List COp} {k : Cb} (hk : opCb op = some k) :
    (op :: rest).head?.bind opCb = some k := by simp [hk]

structure Inv (w : Workload) (s : State) : Prop where
  hw : s.w = w
  /-- the producer has exchanged iff the word is `result` -/
  start_iff : s.ppc = .start ↔ s.word ≠ .result
  /-- the program is `pre* ; fin` -/
  todo_shape : Shape s.todo
  busy_todo : s.cpc ≠ .idle → s.todo ≠ []
  /-- a callback in the word: the consumer is blocked in the wait, or has finished -/
  word_cb : ∀ k, s.word = .cb k →
    (k = .event → inWait s.cpc ∧ s.evReady = false) ∧ (k ≠ .event → cDone s)
  fire : ∀ k, s.ppc = .fire k → k ≠ .drop ∧
    (k = .event → inWait s.cpc ∧ s.evReady = false) ∧ (k ≠ .event → cDone s ∧ s.stored = some w.prod.res)
  psub : s.ppc = .submitted → cDone s ∧ s.stored = some w.prod.res
  evlocked : s.ppc = .evLocked → (s.cpc = .waitAttached ∨ s.cpc = .waitSleeping) ∧ s.evHolder = some .p ∧ s.evReady = true
  holder_p : s.evHolder = some .p → s.ppc = .evLocked
  holder_c : s.evHolder = some .c ↔ ∃ b, s.cpc = .waitLocked b
  locked_flag : ∀ b, s.cpc = .waitLocked b → b = s.evReady
  /-- once the flag is set the producer has at least reached the unlock -/
  ready_p : s.evReady = true → s.ppc = .evLocked ∨ s.ppc = .done
  /-- the storage holds the promised result, only while the word is `result` -/
  stored_val : ∀ r, s.stored = some r → r = w.prod.res ∧ s.word = .result
  stored_live : s.word = .result → s.stored = some w.prod.res ∨ cDone s
  /-- consumer positions that imply the result is there and the producer is done with the word -/
  c_after : (∃ k, s.cpc = .attFailed k) ∨ s.cpc = .submitted ∨ s.cpc = .repGot →
    s.word = .result ∧ s.ppc = .done ∧ atFin s
  c_failed_kind : ∀ k, s.cpc = .attFailed k → k = .cont ∨ k = .target
  c_attl : ∀ k, s.cpc = .attLoaded k → s.todo.head?.bind opCb = some k ∧ (s.word = .empty ∨ (s.word = .result ∧ s.ppc = .done))
  idle_word : s.cpc = .idle → s.todo ≠ [] → (s.word = .empty ∨ (s.word = .result ∧ (s.ppc = .done)))
  rep_word : (∃ b, s.cpc = .repReady b) ∨ (∃ b, s.cpc = .repGetc b) → (s.word = .empty ∨ (s.word = .result ∧ s.ppc = .done))
  rep_true : s.cpc = .repReady true ∨ s.cpc = .repGetc true → s.stored = some w.prod.res
  waitfin : inWait s.cpc ∨ (∃ b, s.cpc = .waitLocked b) ∨ s.cpc = .attLoaded .event →
    (s.waitFin = true ↔ s.todo.head? = some (.fin .getMove))
  gotfin : s.cpc = .repGot → s.todo = [.fin .getMove]
  rep_head_r : ∀ b, s.cpc = .repReady b → s.todo.head? = some (.pre .ready)
  rep_head_g : ∀ b, s.cpc = .repGetc b → s.todo.head? = some (.pre .getc)
  wait_head : inWait s.cpc ∨ (∃ b, s.cpc = .waitLocked b) → s.todo.head?.bind opCb = some .event
  via : (s.cpc = .attFailed .cont ∨ s.cpc = .attLoaded .cont ∨ s.cpc = .submitted) →
    (s.viaExec = true ↔ s.todo.head? = some (.fin (.attach true)))
  /-- ghost histories -/
  delivered_one : s.delivered = [] ∨ (s.delivered.length = 1 ∧ cDone s ∧ s.ppc = .done)
  delivered_val : ∀ x ∈ s.delivered, x.2 = w.prod.res
  got_val : ∀ r ∈ s.got, r = w.prod.res
  got_one : s.got = [] ∨ (s.got.length = 1 ∧ cDone s)
  fwd_val : ∀ x ∈ s.forwarded, x.2 = w.prod.res
  ready_obs : ∀ x ∈ s.readyObs, x.1 = true → x.2 = true
  getc_obs : ∀ o ∈ s.getcObs, o = none ∨ o = some w.prod.res

/- `grind` annotations, visible only where `Auto` is opened: the facts about `Shape` and the clauses of `Inv`, each
   instantiated where the field it constrains occurs, or the value of the program counter it starts from -/
namespace Auto
attribute [scoped grind →] Inv.word_cb Inv.fire Inv.locked_flag Inv.c_failed_kind Inv.c_attl
  Inv.rep_head_r Inv.rep_head_g Inv.delivered_val Inv.got_val Inv.fwd_val Inv.ready_obs Inv.getc_obs
attribute [scoped grind .] Inv.hw Inv.start_iff Inv.holder_c Inv.waitfin Inv.wait_head Inv.via Inv.delivered_one Inv.got_one
scoped grind_pattern Inv.todo_shape => Inv w s, s.todo
scoped grind_pattern Inv.busy_todo => Inv w s, s.cpc, s.todo
scoped grind_pattern Inv.psub => Inv w s, s.ppc, PPc.submitted
scoped grind_pattern Inv.evlocked => Inv w s, s.ppc, PPc.evLocked
scoped grind_pattern Inv.holder_p => Inv w s, s.evHolder
scoped grind_pattern Inv.ready_p => Inv w s, s.evReady
scoped grind_pattern Inv.stored_val => Inv w s, s.stored, some r
scoped grind_pattern Inv.stored_live => Inv w s, s.stored
scoped grind_pattern Inv.c_after => Inv w s, s.cpc, CPc.submitted
scoped grind_pattern Inv.c_after => Inv w s, s.cpc, CPc.repGot
scoped grind_pattern Inv.c_after => Inv w s, s.cpc, CPc.attFailed .cont
scoped grind_pattern Inv.c_after => Inv w s, s.cpc, CPc.attFailed .target
scoped grind_pattern Inv.idle_word => Inv w s, s.cpc, CPc.idle, s.word
scoped grind_pattern Inv.rep_word => Inv w s, s.cpc, s.word
scoped grind_pattern Inv.rep_true => Inv w s, s.cpc, s.stored
scoped grind_pattern Inv.gotfin => Inv w s, s.cpc, CPc.repGot
attribute [scoped grind] cDone inWait atFin loadOk
attribute [scoped grind →] Shape.attach_fin Shape.head_fin Shape.pre_head' attach_event_head
attribute [scoped grind .] Shape.tail
end Auto

/-- preservation of an invariant given as a structure: one goal per clause; the effect is unfolded in the goal only,
    the hypothesis `hi : Inv w s` stays folded and `grind` draws the clauses it needs from it
    (its solvers for rings, ordered fields, AC and orders are off: the clauses need linear integer arithmetic only) -/
macro "inv_auto" : tactic =>
  `(tactic| (constructor <;> simp only [doXchg, doPInvoke, doPForward, doPEvLock, doAttLoad, doCasOk, doCInvoke, doCForward,
      doCReady, doCGetc, doCWaitDone, doCGot, afterFail] <;> grind -ring -linarith -ac -order))

theorem inv_init (w : Workload) : Inv w (init w) := by
  constructor <;> simp [init, cDone, inWait, atFin, Shape]
  · exact ⟨w.pre, rfl⟩

open Auto

theorem inv_xchg {w s} (hi : Inv w s) (h : s.ppc = .start) (hw : s.word ≠ .result) : Inv w (doXchg s) := by
  cases hwd : s.word with
  | result => exact absurd hwd hw
  | empty => simp only [doXchg, hwd]; inv_auto
  | cb k => cases k <;> simp only [doXchg, hwd] <;> inv_auto

theorem inv_attLoad {w s op rest k x} (hi : Inv w s) (h : s.cpc = .idle) (ht : s.todo = op :: rest)
    (hk : opCb op = some k) (hx : loadOk s x) : Inv w (doAttLoad s op k x) := by
  have hb := head_bind_cons (rest := rest) hk
  rw [← ht] at hb
  by_cases hxe : x = .empty
  · simp only [doAttLoad, hxe, ↓reduceIte]; inv_auto
  · cases k with
    | event =>
        cases hop : decide (op = .fin .getMove) <;>
          simp only [doAttLoad, hxe, afterFail, hop, Bool.false_eq_true, ↓reduceIte] <;> inv_auto
    | _ => simp only [doAttLoad, hxe, afterFail, ↓reduceIte] <;> inv_auto

theorem inv_casFail {w s k} (hi : Inv w s) (h : s.cpc = .attLoaded k) (hw : s.word ≠ .empty) :
    Inv w (afterFail s k) := by
  cases k with
  | event => cases hwf : s.waitFin <;> simp only [afterFail, hwf, Bool.false_eq_true, ↓reduceIte] <;> inv_auto
  | _ => simp only [afterFail] <;> inv_auto

theorem inv_step {w s l s'} (hi : Inv w s) (hs : Step s l s') : Inv w s' := by
  cases hs with
  | pXchg h hw => exact inv_xchg hi h hw
  | cAttLoad op rest k x h ht hk hx => exact inv_attLoad hi h ht hk hx
  | cCasOk k h hw => cases k <;> inv_auto
  | cCasFail k h hw => exact inv_casFail hi h hw
  | cWaitDone h => cases hwf : s.waitFin <;> simp only [doCWaitDone, hwf, Bool.false_eq_true, ↓reduceIte] <;> inv_auto
  | _ => inv_auto

theorem inv_reachable {w s} (h : Reachable w s) : Inv w s := by
  induction h with
  | init => exact inv_init w
  | step _ hs ih => exact inv_step ih hs

end Yaclib.Unique
