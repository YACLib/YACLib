/- preservation of the structural invariant InvA -/
import YaclibModel.Proofs.Coro
namespace Yaclib.Coro
open Auto AutoA
attribute [local grind] inOp decided pcKindOk emptyBased isMulti execOk ctxOk ownKind pcExec regKind awaitsCells counted
  regPos freshPc afterRegPc startExec

/-- the end of a SetCallback (or the start of the registration loop): whatever `s1` did to the status list, the cells and the
    counter, the structural facts follow from those of the state `s` the step started in -/
theorem invA_regFrom {w s op rest} (s1 : State) (p : Nat) (ha : InvA w s) (ht : s.todo = op :: rest)
    (hk : regKind op.kind = true) (h1 : s1.w = s.w ∧ s1.todo = s.todo ∧ s1.k = s.k ∧ s1.failed = s.failed)
    (hlen : s1.st.length = op.cells.length) (hown : ownKind op.kind = true → s1.exec = s1.ex0) :
    InvA w (regFrom s1 op p) := by
  simp only [regFrom, afterReg]
  (repeat' split) <;> inv_auto

theorem invA_step {w s l s'} (hwf : w.WF) (ha : InvA w s) (hb : InvB w s) (hs : Step s l s') : InvA w s' := by
  cases hs with
  | pXchg j l f hw hl => inv_auto
  | envPush j l f hw hu => inv_auto
  | envSwap j e hu => inv_auto
  | exCall e h => inv_auto
  | exDrop e h => inv_auto
  | ldtor h hl => inv_auto
  | ret h ht => inv_auto
  | publish r h hr hl => inv_auto
  | fdtor h hl => inv_auto
  | rdLoad op rest j x h ht hj hx => inv_auto
  | mload v h hv => inv_auto
  | submit e h => inv_auto
  | current op rest h ht => inv_auto
  | tdtor j h hl hr => inv_auto
  | start op rest h ht =>
      rcases hk : op.kind with _ | _ | _ | _ | _ | _ | _ | (_ | _) | _ <;> simp only [doStart, hk]
      case on | multi | multiSticky | multiOn =>
        exact invA_regFrom _ 0 ha ht (by grind) ⟨rfl, rfl, rfl, rfl⟩ (by grind) (by grind)
      all_goals inv_auto
  | ready x h => simp only [doReady]; split <;> inv_auto
  | mready v h => simp only [doMReady]; split <;> inv_auto
  | regLoad op rest p j x h ht hj hx =>
      simp only [doRegLoad, regFail]
      split
      · inv_auto
      · exact invA_regFrom _ _ ha ht (by grind) ⟨rfl, rfl, rfl, rfl⟩ (by grind) (by grind)
  | casOk op rest p j l f h ht hj hw hu =>
      simp only [doCasOk, State.setWord]
      exact invA_regFrom _ _ ha ht (by grind) ⟨rfl, rfl, rfl, rfl⟩ (by grind) (by grind)
  | casRetry op rest p j h ht hj hw hu => exact ha
  | casFail op rest p j h ht hj hw =>
      exact invA_regFrom _ _ ha ht (by grind) ⟨rfl, rfl, rfl, rfl⟩ (by grind) (by grind)
  | msub op rest h ht => inv_auto
  | msuspend op rest h ht => simp only [doMsuspend]; split <;> inv_auto
  | tstore op rest j h ht hj => inv_auto
  | fire op rest j p walk ht hw hp =>
      have hp' : p ∈ (s.word j).cbs := by rw [hw]; exact hp
      have hin := (hb.cbs_inop j p hp').1
      have hcell := (hb.cbs_cell j p op rest hp' ht).1
      have haw : awaitsCells op.kind = true := by
        have := wf_nocells (op_wf hwf ha ht); grind
      simp only [doFire, State.setWord]; (repeat' split) <;> inv_auto
  | resume op rest c h ht => inv_auto

end Yaclib.Coro
