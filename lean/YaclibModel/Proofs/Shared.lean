/- Invariants of the C06 model (Model/Shared.lean): definitions, helper lemmas, initial state. -/
import YaclibModel.Model.Shared

namespace Yaclib.Shared

/-! ### small helpers -/

@[simp] theorem upd_same (f : Nat → Obs) (t : Nat) (o : Obs) : upd f t o t = o := by simp [upd]

theorem upd_apply (f : Nat → Obs) (t : Nat) (o : Obs) (j : Nat) : upd f t o j = if j = t then o else f j := rfl

theorem upd_other (f : Nat → Obs) (t j : Nat) (o : Obs) (h : j ≠ t) : upd f t o j = f j := by simp [upd, h]

def wordList : Word → List Cb
  | .list l => l
  | .result => []

def walkList : FPc → List Cb
  | .walk l _ _ => l
  | _ => []

/-- references to the core the fulfiller holds (of the three the promise starts with, plus an IncRef it has
    made for an `exec` callback that is not submitted yet) -/
def promRefs : FPc → Nat
  | .start => 3
  | .walk _ d st => (if d then 2 else 3) + (if st = .incd then 1 else 0)
  | .dec n => n

@[simp] theorem promRefs_start : promRefs .start = 3 := rfl
@[simp] theorem promRefs_walk (l : List Cb) (d : Bool) (st : FSt) :
    promRefs (.walk l d st) = (if d then 2 else 3) + (if st = .incd then 1 else 0) := rfl
@[simp] theorem promRefs_dec (n : Nat) : promRefs (.dec n) = n := rfl
theorem promRefs_advance (rest : List Cb) : promRefs (advance rest) = if rest = [] then 2 else 3 := by
  unfold advance; split <;> simp
theorem promRefs_xchg (l : List Cb) : promRefs (if l = [] then .dec 3 else .walk l false .begin) = 3 := by
  split <;> simp

/-- references owned by When-style callbacks sitting in a list -/
def retCnt (l : List Cb) : Nat := l.countP (fun c => c.kind = .retire)

@[simp] theorem retCnt_nil : retCnt [] = 0 := rfl
theorem retCnt_cons (c : Cb) (l : List Cb) : retCnt (c :: l) = retCnt l + (if c.kind = .retire then 1 else 0) := by
  simp [retCnt, List.countP_cons]

@[simp] theorem wordList_list (l : List Cb) : wordList (.list l) = l := rfl
@[simp] theorem wordList_result : wordList .result = [] := rfl
@[simp] theorem walkList_walk (l : List Cb) (d : Bool) (st : FSt) : walkList (.walk l d st) = l := rfl
@[simp] theorem walkList_start : walkList .start = [] := rfl
@[simp] theorem walkList_dec (n : Nat) : walkList (.dec n) = [] := rfl
@[simp] theorem advance_nil : advance [] = .dec 2 := rfl
@[simp] theorem advance_cons (c : Cb) (rest : List Cb) : advance (c :: rest) = .walk (c :: rest) false .begin := rfl
@[simp] theorem walkList_advance (rest : List Cb) : walkList (advance rest) = rest := by
  unfold advance; split <;> simp_all
@[simp] theorem walkList_xchg (l : List Cb) : walkList (if l = [] then .dec 3 else .walk l false .begin) = l := by
  split <;> simp_all

/-- the callback an observer holds in its own hands -/
def heldCb : OPc → Option Cb
  | .att c _ => some c
  | .run c _ => some c
  | _ => none

@[simp] theorem heldCb_att (c : Cb) (e : List Cb) : heldCb (.att c e) = some c := rfl
@[simp] theorem heldCb_run (c : Cb) (st : FSt) : heldCb (.run c st) = some c := rfl
@[simp] theorem heldCb_idle : heldCb .idle = none := rfl
@[simp] theorem heldCb_evt (c : Cb) : heldCb (.evt c) = none := rfl
@[simp] theorem heldCb_rep (x : Word) : heldCb (.rep x) = none := rfl
@[simp] theorem heldCb_touching : heldCb .touching = none := rfl
@[simp] theorem heldCb_gotRef (n : Nat) : heldCb (.gotRef n) = none := rfl

theorem heldCb_some {p : OPc} {c : Cb} (h : heldCb p = some c) : (∃ e, p = .att c e) ∨ (∃ st, p = .run c st) := by
  cases p <;> simp [heldCb] at h <;> subst h <;> simp

/-- Σ refs over the first n observers -/
def holdSum (f : Nat → Obs) : Nat → Nat
  | 0 => 0
  | n + 1 => holdSum f n + (f n).refs

theorem holdSum_upd_ge (f : Nat → Obs) (t : Nat) (o : Obs) (n : Nat) (h : n ≤ t) : holdSum (upd f t o) n = holdSum f n := by
  induction n with
  | zero => rfl
  | succ k ih =>
      have hk : k ≠ t := by omega
      simp [holdSum, upd_other _ _ _ _ hk, ih (by omega)]

theorem holdSum_upd_lt (f : Nat → Obs) (t : Nat) (o : Obs) (n : Nat) (h : t < n) :
    holdSum (upd f t o) n + (f t).refs = holdSum f n + o.refs := by
  induction n with
  | zero => omega
  | succ k ih =>
      by_cases hk : k = t
      · subst hk
        simp [holdSum, holdSum_upd_ge f k o k (Nat.le_refl _)]
        omega
      · have := ih (by omega)
        simp [holdSum, upd_other _ _ _ _ hk]
        omega

theorem refs_le_holdSum (f : Nat → Obs) (t n : Nat) (h : t < n) : (f t).refs ≤ holdSum f n := by
  induction n with
  | zero => omega
  | succ k ih =>
      by_cases hk : k = t
      · subst hk; simp [holdSum]
      · have := ih (by omega); simp [holdSum]; omega

theorem refs_two_le_holdSum (f : Nat → Obs) (t t' n : Nat) (h : t < n) (h' : t' < n) (hne : t ≠ t') :
    (f t).refs + (f t').refs ≤ holdSum f n := by
  induction n with
  | zero => omega
  | succ k ih =>
      by_cases hk : k = t
      · subst hk
        have := refs_le_holdSum f t' k (by omega)
        simp [holdSum]; omega
      · by_cases hk' : k = t'
        · subst hk'
          have := refs_le_holdSum f t k (by omega)
          simp [holdSum]; omega
        · have := ih (by omega) (by omega); simp [holdSum]; omega

theorem mem_erase_of_count_le_one {l : List Cb} {c c' : Cb} (h : l.count c ≤ 1) (hm : c' ∈ l.erase c) : c' ≠ c ∧ c' ∈ l := by
  refine ⟨?_, List.mem_of_mem_erase hm⟩
  intro he; subst he
  by_cases hc : c' ∈ l
  · have h1 : (l.erase c').count c' = l.count c' - 1 := by simp [List.count_erase_self]
    have h2 : 0 < (l.erase c').count c' := List.count_pos_iff.mpr hm
    omega
  · rw [List.erase_of_not_mem hc] at hm; exact hc hm

theorem count_erase_ne {l : List Cb} {c c' : Cb} (h : c' ≠ c) : (l.erase c).count c' = l.count c' := by
  simp [List.count_erase_of_ne h]

theorem count_erase_self' {l : List Cb} {c : Cb} (h : c ∈ l) : (l.erase c).count c + 1 = l.count c := by
  have : 0 < l.count c := List.count_pos_iff.mpr h
  simp [List.count_erase_self]; omega

theorem staleOk_self (l : List Cb) : staleOk l l := by simp [staleOk]

/-! ### the invariants -/

/-- reference bookkeeping per thread -/
structure Inv0 (s : State) : Prop where
  sum : s.holders = holdSum s.obs s.n
  out : ∀ t, s.n ≤ t → (s.obs t).refs = 0
  busy : ∀ t, (s.obs t).pc ≠ .idle → 0 < (s.obs t).refs

theorem Inv0.lt {s : State} (h : Inv0 s) {t : Nat} (hp : 0 < (s.obs t).refs) : t < s.n := by
  apply Classical.byContradiction; intro hn
  have := h.out t (by omega); omega

theorem Inv0.le {s : State} (h : Inv0 s) (t : Nat) : (s.obs t).refs ≤ s.holders := by
  by_cases hp : 0 < (s.obs t).refs
  · rw [h.sum]; exact refs_le_holdSum _ _ _ (h.lt hp)
  · omega

theorem Inv0.two {s : State} (h : Inv0 s) {t t' : Nat} (hne : t ≠ t') : (s.obs t).refs + (s.obs t').refs ≤ s.holders := by
  by_cases hp : 0 < (s.obs t).refs
  · by_cases hp' : 0 < (s.obs t').refs
    · rw [h.sum]; exact refs_two_le_holdSum _ _ _ _ (h.lt hp) (h.lt hp') hne
    · have := h.le t; omega
  · have := h.le t'; omega

theorem Inv0.two' {s : State} (h : Inv0 s) (t t' : Nat) : t = t' ∨ (s.obs t).refs + (s.obs t').refs ≤ s.holders := by
  by_cases hne : t = t'
  · exact Or.inl hne
  · exact Or.inr (h.two hne)

theorem Inv0.sum_upd {s : State} (h : Inv0 s) {t : Nat} (hp : 0 < (s.obs t).refs) (o : Obs) :
    holdSum (upd s.obs t o) s.n + (s.obs t).refs = s.holders + o.refs := by
  rw [h.sum]; exact holdSum_upd_lt _ _ _ _ (h.lt hp)

theorem holdSum_ones (f : Nat → Obs) (m : Nat) (h : ∀ t, t < m → (f t).refs = 1) : holdSum f m = m := by
  induction m with
  | zero => rfl
  | succ k ih =>
      have h1 := ih (fun t ht => h t (by omega))
      have h2 := h k (by omega)
      simp only [holdSum, h1, h2]

theorem inv0_init (w : Workload) : Inv0 (init w) := by
  constructor
  · simp only [init]
    exact (holdSum_ones _ _ (fun t ht => by simp [ht])).symm
  · intro t ht; simp only [init] at *; simp; omega
  · intro t ht; simp [init] at ht

/-- basic shape facts -/
structure InvA (w : Workload) (s : State) : Prop where
  hw : s.w = w
  word_iff : s.word = .result ↔ s.fpc ≠ .start
  stored_eq : s.stored = if s.fpc = .start then none else some w.prod.res
  chain_word : ∀ l, s.word = .list l → s.chain = l
  walk_ne : ∀ l d st, s.fpc = .walk l d st → l ≠ [] ∧ (d = true → l.tail = []) ∧ (st ≠ .begin → canFire l.tail d)
  walk_kind : ∀ c rest d st, s.fpc = .walk (c :: rest) d st →
    (st = .incd → c.kind = .exec) ∧ (∀ n, st = .refd n → c.kind = .target) ∧ (st = .post → c.kind = .target)
  dec_le : ∀ n, s.fpc = .dec n → n ≤ 3
  run_shape : ∀ t c st, (s.obs t).pc = .run c st →
    s.fpc ≠ .start ∧ c.kind ≠ .event ∧ st ≠ .post ∧ (st = .incd → c.kind = .exec) ∧ (∀ n, st ≠ .refd n)
  got_after : ∀ t n, (s.obs t).pc = .gotRef n → s.fpc ≠ .start
  rep_res : ∀ t, (s.obs t).pc = .rep .result → s.fpc ≠ .start
  jobs_after : ∀ c, c ∈ s.jobs ∨ c ∈ s.jobsRun → s.fpc ≠ .start
  /-- a combinator callback is entered, and retires, only after the exchange -/
  rets_after : ∀ c, c ∈ s.rets → s.fpc ≠ .start
  retsLd_after : ∀ x ∈ s.retsLd, s.fpc ≠ .start
  retired_val : ∀ x ∈ s.retired, x.2.1 = some w.prod.res
  fired_after : ∀ x ∈ s.fired, s.fpc ≠ .start
  fired_val : ∀ x ∈ s.fired, x.2 = some w.prod.res
  got_val : ∀ x ∈ s.got, x.2.1 = some w.prod.res
  getc_val : ∀ x ∈ s.getcObs, x.2 = some w.prod.res
  ready_obs : ∀ x ∈ s.readyObs, x.1 = .result → x.2 = true
  /-- `Touch()` after `Ready() == true` happens only once the result is there, and reads it -/
  touching_after : ∀ t, (s.obs t).pc = .touching → s.fpc ≠ .start
  touch_val : ∀ x ∈ s.touchObs, x = some w.prod.res
  att_head : ∀ t c e, (s.obs t).pc = .att c e → (s.obs t).todo.head?.bind opKind = some c.kind
  evt_head : ∀ t c, (s.obs t).pc = .evt c → (s.obs t).todo.head?.bind opKind = some .event

theorem invA_init (w : Workload) : InvA w (init w) := by
  constructor <;> simp [init]

/-- unfold the step effects, but keep `advance`, `wordList`, `walkList`, `heldCb`, `promRefs` folded -/
macro "sh_unfold" : tactic =>
  `(tactic| simp only [doXchg, doFFire, doFForward, doFEnter, failPath, reload, doLoad, doCasOk, doOInvoke,
      doOIncRef, doOSubmit, doOEnter, doRRefLoad, doRRetire, doGetc, doGot, doReady, doTouch, doCopy, doDrop, doJInvoke, doJDec, decCount, nextOp,
      canFire, upd_apply, firedIds, loadOk, wordList_list, wordList_result, walkList_walk, walkList_start, walkList_dec,
      advance_nil, advance_cons, walkList_advance, walkList_xchg, promRefs_advance, promRefs_xchg, promRefs_start, promRefs_walk, promRefs_dec, heldCb_att, heldCb_run, heldCb_idle, heldCb_evt, heldCb_rep, heldCb_touching, heldCb_gotRef,
      List.map_append, List.map_cons, List.map_nil,
      ↓reduceIte, reduceCtorEq, ite_true, ite_false, if_true, if_false] at *)

/- Inside `Auto`, `grind` sees a folded `h : Inv0 s`, `hi : InvA w s` as a source of facts: a clause is instantiated
   when the term it speaks of occurs. -/
namespace Auto
attribute [scoped grind →] Inv0.busy InvA.chain_word InvA.walk_ne InvA.walk_kind InvA.dec_le InvA.run_shape InvA.got_after
  InvA.rep_res InvA.jobs_after InvA.rets_after InvA.retsLd_after InvA.retired_val InvA.fired_after InvA.fired_val
  InvA.got_val InvA.getc_val InvA.ready_obs InvA.touching_after InvA.touch_val InvA.att_head InvA.evt_head
scoped grind_pattern InvA.jobs_after => InvA w s, c ∈ s.jobsRun
scoped grind_pattern InvA.hw => InvA w s, s.w
scoped grind_pattern InvA.word_iff => InvA w s, s.word
scoped grind_pattern InvA.stored_eq => InvA w s, s.stored
scoped grind_pattern Inv0.sum => Inv0 s, s.holders
scoped grind_pattern Inv0.sum_upd => Inv0 s, holdSum (upd s.obs t o) s.n
scoped grind_pattern Inv0.out => Inv0 s, s.obs t
scoped grind_pattern Inv0.le => Inv0 s, (s.obs t).refs
attribute [scoped grind =] upd_apply
attribute [scoped grind] canFire loadOk firedIds
end Auto

/-- closes `Inv… s'` for the state `s'` after one step: the effect is unfolded in the goal, each clause goes to `grind`
    (its solvers for rings, ordered fields, AC and orders are off: the clauses need linear integer arithmetic only) -/
macro "inv_auto" : tactic =>
  `(tactic| (
    (try simp only [doXchg, doFFire, doFForward, doFEnter, failPath, reload, doLoad, doCasOk, doOInvoke, doOIncRef, doOSubmit,
      doOEnter, doRRefLoad, doRRetire, doGetc, doGot, doReady, readyNext, doTouch, doCopy, doDrop, doJInvoke, doJDec, decCount,
      nextOp, ↓walkList_advance, ↓walkList_xchg, ↓promRefs_advance, ↓promRefs_xchg, advance, firedIds])
    constructor <;> grind -ring -linarith -ac -order))

end Yaclib.Shared
