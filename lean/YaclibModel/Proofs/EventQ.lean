/- Invariants of the C16 model, part 4: what is needed for "nobody stays parked once the count has reached zero". -/
import YaclibModel.Proofs.EventJobStep

namespace Yaclib.Event

/-- the jobs a thread inside `SetImpl` still has to call (the one in hand first) -/
def Pc.runList : Pc → List Nat
  | .run js _ => js
  | .runDec j rest => j :: rest
  | _ => []

structure InvQ (s : State) : Prop where
  q_zero : s.zeroed = true → s.zeroer ≠ none
  q_zz : s.zeroer ≠ none → s.zeroed = true
  q_xh : ∀ t, (s.thr t).pc.setter = true → s.zeroer = some t
  q_locked : ∀ t j rest, (s.thr t).pc = .run (j :: rest) true → (s.job j).ready = true
  q_lockedD : ∀ t j rest, (s.thr t).pc = .runDec j rest → (s.job j).ready = true
  q_zeroer : ∀ tz, s.zeroer = some tz → s.head ≠ none → (s.thr tz).pc = .xchgHead
  q_listed : ∀ j, (s.job j).st = .listed → s.head ≠ none ∧ ∀ l, s.head = some l → j ∈ l
  q_running : ∀ j, (s.job j).st = .running → s.zeroer ≠ none ∧ ∀ tz, s.zeroer = some tz → j ∈ (s.thr tz).pc.runList
  q_called : ∀ j, (s.job j).st = .called → (s.job j).kind ≠ .coro → (s.job j).ready = true
  q_cb : ∀ t, (s.thr t).pc = .cbSub → ∃ f rest, (s.thr t).prog = .fulfil f :: rest
  q_odone : ∀ j, j < s.njobs → (s.job j).odone = false → (s.thr (s.job j).owner).pc.owner = some j
  q_block : ∀ j, (s.job j).kind = .blocking → (s.job j).odone = true → (s.job j).nrel = 1
  q_repb : ∀ t j b, (s.thr t).pc = .rep j b → (s.job j).kind = .blocking → b = true
  q_uretb : ∀ t j b, (s.thr t).pc = .bUnlockRet j b → (s.job j).kind = .blocking → b = true
  q_oref : ∀ j, (s.job j).kind = .timed → (s.job j).odone = true → (s.job j).oref = false
  q_tryc : ∀ t j x, (s.thr t).pc = .tryC j x → x ≠ .done
  q_fresh : ∀ j, (s.job j).st = .fresh → (s.job j).odone = false
  q_rep : ∀ t j b, (s.thr t).pc = .rep j b → (s.job j).st ≠ .fresh

theorem invQ_init (w : Workload) : InvQ (init w) := by
  constructor <;> simp [init] <;> intro t <;> split <;> simp [Pc.setter]

theorem Pc.runList_xchgHead : Pc.xchgHead.runList = [] := rfl

theorem Pc.runList_of_setter {pc : Pc} (h : pc.setter = false) : pc.runList = [] := by
  cases pc <;> simp_all [Pc.runList, Pc.setter]

theorem InvQ.running_zeroer {s : State} (hq : InvQ s) {j : Nat} (h : (s.job j).st = .running) : s.zeroer ≠ none :=
  (hq.q_running j h).1

theorem InvQ.running_mem {s : State} (hq : InvQ s) {j tz : Nat} (h : (s.job j).st = .running) (hz : s.zeroer = some tz) :
    j ∈ (s.thr tz).pc.runList :=
  (hq.q_running j h).2 tz hz

-- `grind` sees each clause of `InvQ` where the field or program counter it constrains occurs; the clauses of the other
-- invariants are not here: a step that rests on one names it
namespace QAuto
attribute [scoped grind =] updT_same updT_other updJ_same updJ_other markRunning_mem markRunning_not_mem List.nodup_cons
  Pc.runList.eq_1 Pc.runList.eq_2 Pc.runList_xchgHead Pc.setter.eq_1 Pc.setter.eq_2 Pc.setter.eq_3
  Pc.setter_idle Pc.setter_insReg Pc.setter_insCas Pc.setter_insSub Pc.setter_cbSub Pc.setter_rdy Pc.setter_tryL Pc.setter_tryC
  Pc.setter_resume Pc.setter_bLock Pc.setter_bHeld Pc.setter_bAsleep Pc.setter_bTimedOut Pc.setter_bUnlockRet Pc.setter_bDec Pc.setter_rep
  Pc.owner.eq_1 Pc.owner.eq_2 Pc.owner.eq_3 Pc.owner.eq_4 Pc.owner.eq_5 Pc.owner.eq_6 Pc.owner.eq_7 Pc.owner.eq_8 Pc.owner.eq_9
  Pc.owner.eq_10 Pc.owner_idle Pc.owner_xchgHead Pc.owner_run Pc.owner_runDec Pc.owner_insReg Pc.owner_insCas Pc.owner_insSub
  Pc.owner_cbSub Pc.owner_rdy
attribute [scoped grind ←] Pc.runList_of_setter
scoped grind_pattern InvQ.q_zero => InvQ s, s.zeroed
scoped grind_pattern InvQ.q_zz => InvQ s, s.zeroer
scoped grind_pattern InvQ.q_xh => InvQ s, (s.thr t).pc.setter
scoped grind_pattern InvQ.q_locked => InvQ s, (s.thr t).pc, Pc.run (j :: rest) true
scoped grind_pattern InvQ.q_lockedD => InvQ s, (s.thr t).pc, Pc.runDec j rest
scoped grind_pattern InvQ.q_zeroer => InvQ s, s.zeroer, (s.thr tz).pc
scoped grind_pattern InvQ.q_listed => InvQ s, (s.job j).st, s.head
scoped grind_pattern InvQ.running_zeroer => InvQ s, (s.job j).st, s.zeroer
scoped grind_pattern InvQ.running_mem => InvQ s, (s.job j).st, s.zeroer, (s.thr tz).pc
scoped grind_pattern InvQ.q_called => InvQ s, (s.job j).st, (s.job j).ready
scoped grind_pattern InvQ.q_cb => InvQ s, (s.thr t).pc, Pc.cbSub
scoped grind_pattern InvQ.q_odone => InvQ s, (s.job j).odone, s.njobs
scoped grind_pattern InvQ.q_block => InvQ s, (s.job j).odone, (s.job j).nrel
scoped grind_pattern InvQ.q_repb => InvQ s, (s.thr t).pc, Pc.rep j b
scoped grind_pattern InvQ.q_uretb => InvQ s, (s.thr t).pc, Pc.bUnlockRet j b
scoped grind_pattern InvQ.q_oref => InvQ s, (s.job j).odone, (s.job j).oref
scoped grind_pattern InvQ.q_tryc => InvQ s, (s.thr t).pc, Pc.tryC j x
scoped grind_pattern InvQ.q_fresh => InvQ s, (s.job j).st, (s.job j).odone
scoped grind_pattern InvQ.q_rep => InvQ s, (s.thr t).pc, Pc.rep j b
end QAuto

/-- closes one clause of `InvQ` after a step; of the arithmetic in `grind` only the linear integer part is needed, and the
    other solvers look for an instance of their structures on every type a goal mentions -/
macro "q_grind" : tactic => `(tactic| grind -ring -linarith -ac -order)

end Yaclib.Event
