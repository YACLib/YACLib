/- Invariants of the C16 model, part 2: the token discipline ("Add only while the count is non-zero").
   count = Σ held + |toks|; the count reaches zero exactly once; `SetImpl` runs once (never on the sentinel). -/
import YaclibModel.Proofs.Event

namespace Yaclib.Event

/-- the static check of one thread's program: it may Add only while it holds a unit, Done only units it holds -/
def okProg : Nat → List Op → Bool
  | _, [] => true
  | h, .add k :: r => decide (1 ≤ h) && okProg (h + k) r
  | h, .done k :: r => decide (1 ≤ k ∧ k ≤ h) && okProg (h - k) r
  | h, .insert _ fs :: r => decide (1 ≤ h ∧ fs ≠ []) && okProg h r
  | h, _ :: r => okProg h r

/-- the documented rule as a decidable predicate on workloads -/
def Workload.ok (w : Workload) : Prop := ∀ t, t < w.nthr → okProg (w.held0 t) (w.prog t) = true

instance (w : Workload) : Decidable w.ok := by unfold Workload.ok; exact Nat.decidableBallLT _ _

/-- sum of the units held by threads `< n` -/
def hsum (f : Nat → Thr) : Nat → Nat
  | 0 => 0
  | n + 1 => hsum f n + (f n).held

theorem hsum_upd_ge {f : Nat → Thr} {t : Nat} {x : Thr} {n : Nat} (h : n ≤ t) : hsum (updT f t x) n = hsum f n := by
  induction n with
  | zero => rfl
  | succ n ih =>
      have hn : n ≠ t := by omega
      simp [hsum, ih (by omega), updT_other f t n x hn]

theorem hsum_upd_lt {f : Nat → Thr} {t : Nat} {x : Thr} {n : Nat} (h : t < n) :
    hsum (updT f t x) n + (f t).held = hsum f n + x.held := by
  induction n with
  | zero => omega
  | succ n ih =>
      by_cases hn : n = t
      · subst hn
        simp only [hsum, updT_same, hsum_upd_ge (Nat.le_refl _)]
        omega
      · have := ih (by omega)
        simp only [hsum, updT_other f t n x hn]
        omega

theorem hsum_init (w : Workload) (n : Nat) (h : n ≤ w.nthr) :
    hsum (fun t => if t < w.nthr then { prog := w.prog t, pc := .idle, held := w.held0 t } else {}) n = sumTo w.held0 n := by
  induction n with
  | zero => rfl
  | succ n ih =>
      have : n < w.nthr := by omega
      simp [hsum, sumTo, ih (by omega), this]

theorem hsum_pos {f : Nat → Thr} {t n : Nat} (h : t < n) : (f t).held ≤ hsum f n := by
  induction n with
  | zero => omega
  | succ n ih =>
      by_cases hn : t = n
      · subst hn; simp [hsum]
      · have := ih (by omega); simp only [hsum]; omega

/-- what the program counter of a thread implies about its units and its remaining program -/
def thrOk (th : Thr) : Prop :=
  match th.pc with
  | .idle => okProg th.held th.prog = true
  | .insReg rest c wc _ => rest ≠ [] ∧ wc + rest.length ≤ c ∧ c + 1 ≤ th.held + wc ∧ okProg (th.held + wc - c) th.prog.tail = true
  | .insCas _ rest c wc _ => wc + rest.length + 1 ≤ c ∧ c + 1 ≤ th.held + wc ∧ okProg (th.held + wc - c) th.prog.tail = true
  | .insSub k => 1 ≤ k ∧ k + 1 ≤ th.held ∧ okProg (th.held - k) th.prog.tail = true
  | _ => okProg th.held th.prog.tail = true

structure InvT (s : State) : Prop where
  t_cnt : s.count = ((hsum s.thr s.w.nthr : Nat) : Int) + (s.toks.length : Int)
  t_out : ∀ t, s.w.nthr ≤ t → (s.thr t).pc = .idle ∧ (s.thr t).prog = [] ∧ (s.thr t).held = 0
  t_ok : ∀ t, thrOk (s.thr t)
  t_z : s.zeroed = true → s.count = 0
  t_nz : s.nzero ≤ 1
  t_cb : ∀ t f rest, (s.thr t).pc = .cbSub → (s.thr t).prog = .fulfil f :: rest → f ∈ s.toks ∧ (s.fut f).word = .result
  t_tok : ∀ f, (s.fut f).word = .call ∨ (s.fut f).word = .drop → f ∈ s.toks
  t_cb_uniq : ∀ t t' f r r', (s.thr t).pc = .cbSub → (s.thr t).prog = .fulfil f :: r →
    (s.thr t').pc = .cbSub → (s.thr t').prog = .fulfil f :: r' → t = t'
  t_xh : ∀ t, (s.thr t).pc = .xchgHead → s.head ≠ none
  t_one : ∀ t t', (s.thr t).pc.setter = true → (s.thr t').pc.setter = true → t = t'
  t_crash : s.crash = false

theorem invT_init (w : Workload) (hok : w.ok) : InvT (init w) := by
  constructor
  · simp only [init]; rw [hsum_init w w.nthr (Nat.le_refl _)]; simp
  · intro t ht; have : ¬ t < w.nthr := by simp only [init] at ht; omega
    simp [init, this]
  · intro t
    simp only [init]
    by_cases ht : t < w.nthr
    · simp only [ht, ↓reduceIte, thrOk]; exact hok t ht
    · simp [ht, thrOk, okProg]
  all_goals (simp [init]; try (intro t; split <;> simp [Pc.setter]))

variable {s s' : State} {l : Label} {w : Workload}

theorem hsum_upd_held {f : Nat → Thr} {t : Nat} {x : Thr} {n : Nat} (h : x.held = (f t).held) : hsum (updT f t x) n = hsum f n := by
  by_cases ht : t < n
  · have := hsum_upd_lt (f := f) (x := x) ht; omega
  · exact hsum_upd_ge (by omega)

theorem InvT.active_lt (hi : InvT s) {t : Nat} (h : (s.thr t).pc ≠ .idle ∨ (s.thr t).prog ≠ []) : t < s.w.nthr := by
  by_cases ht : t < s.w.nthr
  · exact ht
  · have := hi.t_out t (by omega); rcases h with h | h
    · exact absurd this.1 h
    · exact absurd this.2.1 h

theorem thrOk_upd {f : Nat → Thr} (hf : ∀ t, thrOk (f t)) {x : Thr} (hx : thrOk x) (t t' : Nat) : thrOk (updT f t x t') := by
  unfold updT; split
  · exact hx
  · exact hf t'

-- `grind` sees the clauses of the token invariant at the terms they speak of
namespace Auto
scoped grind_pattern InvT.t_cnt => InvT s, s.count
scoped grind_pattern InvT.t_z => InvT s, s.zeroed
scoped grind_pattern InvT.t_nz => InvT s, s.nzero
scoped grind_pattern InvT.t_crash => InvT s, s.crash
scoped grind_pattern InvT.t_out => InvT s, s.thr t, s.w.nthr
scoped grind_pattern InvT.t_cb => InvT s, s.thr t, Op.fulfil f :: rest
scoped grind_pattern InvT.t_tok => InvT s, s.fut f, s.toks
scoped grind_pattern InvT.t_cb_uniq => InvT s, s.thr t, s.thr t', Op.fulfil f :: r, Op.fulfil f :: r'
scoped grind_pattern InvT.t_xh => InvT s, s.thr t, s.head
scoped grind_pattern InvT.t_one => InvT s, (s.thr t).pc.setter, (s.thr t').pc.setter
attribute [scoped grind .] hsum_upd_lt List.length_erase_of_mem
attribute [scoped grind =] hsum_upd_held
end Auto
open Auto

/-- a step of thread `t` that touches nothing the token discipline speaks of (the count, the units, the futures) and
    leaves `t` outside the counting phases preserves the token invariant -/
theorem InvT.local (hi : InvT s) {t : Nat} {x : Thr} {s' : State} (hthr : s'.thr = updT s.thr t x) (hw : s'.w = s.w)
    (hcount : s'.count = s.count) (htoks : s'.toks = s.toks) (hfut : s'.fut = s.fut) (hzeroed : s'.zeroed = s.zeroed)
    (hnzero : s'.nzero = s.nzero) (hcrash : s'.crash = s.crash) (hheld : x.held = (s.thr t).held) (hok : thrOk x)
    (hact : t < s.w.nthr) (hcb : x.pc ≠ .cbSub) (hxh : x.pc ≠ .xchgHead)
    (hset : x.pc.setter = true → (s.thr t).pc.setter = true)
    (hhead : s'.head = none → s.head = none ∨ (s.thr t).pc = .xchgHead) : InvT s' := by
  constructor <;> simp only [hthr, hw, hcount, htoks, hfut, hzeroed, hnzero, hcrash]
  case t_ok => exact thrOk_upd hi.t_ok hok t
  all_goals grind

theorem InvT.out_upd (hi : InvT s) {t : Nat} {x : Thr} (ht : t < s.w.nthr) :
    ∀ t', s.w.nthr ≤ t' → (updT s.thr t x t').pc = .idle ∧ (updT s.thr t x t').prog = [] ∧ (updT s.thr t x t').held = 0 := by
  grind

/-- a step of thread `t` keeps the callbacks of distinct threads distinct if `t` does not enter `cbSub` for a
    future another thread is already calling back -/
theorem InvT.cb_uniq_upd (hi : InvT s) {t : Nat} {x : Thr}
    (hx : ∀ f r t' r', x.pc = .cbSub → x.prog = .fulfil f :: r → (s.thr t').pc = .cbSub → (s.thr t').prog = .fulfil f :: r' → t' = t) :
    ∀ t₁ t₂ f r r', (updT s.thr t x t₁).pc = .cbSub → (updT s.thr t x t₁).prog = .fulfil f :: r →
      (updT s.thr t x t₂).pc = .cbSub → (updT s.thr t x t₂).prog = .fulfil f :: r' → t₁ = t₂ := by
  grind

/-- a step of thread `t` leaves at most one thread inside `SetImpl` if `t` enters it only when no other thread is there -/
theorem InvT.one_upd (hi : InvT s) {t : Nat} {x : Thr}
    (hx : ∀ t', x.pc.setter = true → (s.thr t').pc.setter = true → t' = t) :
    ∀ t₁ t₂, (updT s.thr t x t₁).pc.setter = true → (updT s.thr t x t₂).pc.setter = true → t₁ = t₂ := by
  grind

/-- the counting steps: the acting thread is a real one; what its program counter says about its program -/
macro "t_pre" "[" hs:Lean.Parser.Tactic.simpLemma,* "]" hi:ident t:term : tactic => `(tactic| (
  have ht := ($hi).active_lt (t := $t) (by simp [$hs,*])
  have hpos := hsum_pos (f := s.thr) ht
  have hok := ($hi).t_ok $t
  simp only [thrOk, okProg, Bool.and_eq_true, decide_eq_true_eq, $hs,*] at hok))

/-- the other steps, through `InvT.local` -/
macro "t_local" "[" hs:Lean.Parser.Tactic.simpLemma,* "]" hi:ident t:term : tactic => `(tactic| (
  have hok := ($hi).t_ok $t
  simp only [thrOk, $hs,*] at hok
  refine InvT.local $hi (t := $t) rfl rfl rfl rfl rfl rfl rfl rfl rfl ?_ (($hi).active_lt (by simp [$hs,*])) ?_ ?_ ?_ ?_ <;>
    simp [thrOk, Pc.setter, hok, $hs,*]))

theorem invT_step_job (hi : InvT s) (hs : Step s l s')
    (hl : (∃ t x, l = .hLoad t x) ∨ (∃ t b, l = .hCas t b) ∨ (∃ t x, l = .hSpur t x) ∨ (∃ t o, l = .hXchg t o) ∨
      (∃ t j, l = .lock t j) ∨ (∃ t j, l = .unlock t j) ∨ (∃ t j, l = .timeout t j) ∨ (∃ t j o, l = .jDec t j o) ∨
      (∃ t j b, l = .ret t j b) ∨ (∃ t j, l = .rel t j)) : InvT s' := by
  cases hs with
  | tXchgHead t h =>
      have hx := hi.t_xh t h
      ev_unfold
      split
      · contradiction
      · split <;> t_local [h] hi t
  | tRunLock t j rest h hk hm => ev_unfold; t_local [h] hi t
  | tRunUnlock t j rest h => ev_unfold; repeat' split
                             all_goals t_local [h] hi t
  | tRunDec t j rest h => ev_unfold; repeat' split
                          all_goals t_local [h] hi t
  | tRunRel t j rest h hk => ev_unfold; split <;> t_local [h] hi t
  | tStart t op rest k x h hp hk hx =>
      have hop : okProg (s.thr t).held (op :: rest) = okProg (s.thr t).held rest := by
        cases op <;> simp [opKind] at hk <;> rfl
      ev_unfold; repeat' split
      all_goals t_local [h, hp, hop] hi t
  | tTryLoad t j x h hx => ev_unfold; repeat' split
                           all_goals t_local [h] hi t
  | tCasOk t j l h hh => ev_unfold; split <;> t_local [h] hi t
  | tCasFail t j x h hh => ev_unfold; repeat' split
                           all_goals t_local [h] hi t
  | tCasSpur t j x x' h hx => ev_unfold; repeat' split
                              all_goals t_local [h] hi t
  | tResume t j h => ev_unfold; t_local [h] hi t
  | tBLock t j h hm =>
      ev_unfold; repeat' split
      all_goals rcases h with h | h <;> t_local [h] hi t
  | tBSleep t j h => ev_unfold; t_local [h] hi t
  | tBTimeout t j h hk => ev_unfold; t_local [h] hi t
  | tBLockT t j h hm => ev_unfold; repeat' split
                        all_goals t_local [h] hi t
  | tBUnlockRet t j b h => ev_unfold; split <;> t_local [h] hi t
  | tBDec t j b h => ev_unfold; split <;> t_local [h] hi t
  | tRep t j b h => ev_unfold; t_local [h] hi t
  | _ => rcases hl with ⟨_, _, hl⟩ | ⟨_, _, hl⟩ | ⟨_, _, hl⟩ | ⟨_, _, hl⟩ | ⟨_, _, hl⟩ | ⟨_, _, hl⟩ | ⟨_, _, hl⟩ | ⟨_, _, _, hl⟩ |
      ⟨_, _, _, hl⟩ | ⟨_, _, hl⟩ <;> cases hl

macro "t_fields" hi:ident t:term : tactic => `(tactic| (
  constructor
  case t_ok => (exact thrOk_upd ($hi).t_ok (by simp only [thrOk, okProg, List.tail_cons]; grind) $t)
  case t_cb_uniq => (exact ($hi).cb_uniq_upd (t := $t) (by grind))
  case t_one => (exact ($hi).one_upd (t := $t) (by grind))
  case t_out => (exact ($hi).out_upd (by assumption))
  all_goals grind))

theorem invT_step_count (hz : InvZ s) (hi : InvT s) (hs : Step s l s')
    (hl : (∃ t k o, l = .fadd t k o) ∨ (∃ t k o, l = .fsub t k o)) : InvT s' := by
  rcases hl with ⟨t, k, o, rfl⟩ | ⟨t, k, o, rfl⟩ <;> cases hs
  case tAdd rest h hp =>
      t_pre [h, hp] hi t
      ev_unfold
      t_fields hi t
  case tDone rest h hp =>
      t_pre [h, hp] hi t
      -- the count is still positive, so it has not been zero before: the head is there and no thread is in `SetImpl`
      have hzc := hi.t_z
      ev_unfold
      split <;> t_fields hi t
  case tInsAdd consume fs rest hne h hp =>
      t_pre [h, hp] hi t
      ev_unfold
      t_fields hi t
  case tInsSub h =>
      t_pre [h] hi t
      ev_unfold
      split <;> t_fields hi t
  case tCbSub f rest h hp =>
      t_pre [h, hp] hi t
      have hcb := hi.t_cb t f rest h hp
      have hzc := hi.t_z
      ev_unfold
      split <;> t_fields hi t

theorem invT_step_load (hi : InvT s) (hs : Step s l s')
    (hl : (∃ t f x, l = .fLoad t f x) ∨ (∃ t f b, l = .rdy t f b)) : InvT s' := by
  rcases hl with ⟨t, f, x, rfl⟩ | ⟨t, f, b, rfl⟩ <;> cases hs
  case tInsLoad rest c wc consume h hx =>
      t_pre [h] hi t
      ev_unfold
      repeat' split
      all_goals t_fields hi t
  case tReadyLoad rest h hp => ev_unfold; t_local [h, hp, okProg] hi t
  case tReady c h => ev_unfold; t_local [h] hi t

theorem invT_step_cas (hi : InvT s) (hs : Step s l s')
    (hl : (∃ t f b, l = .fCas t f b) ∨ (∃ t f o, l = .pXchg t f o)) : InvT s' := by
  rcases hl with ⟨t, f, b, rfl⟩ | ⟨t, f, o, rfl⟩ <;> cases hs
  case tInsCasOk rest c wc consume hw h =>
      t_pre [h] hi t
      ev_unfold
      repeat' split
      all_goals t_fields hi t
  case tInsCasFail rest c wc consume hw h =>
      t_pre [h] hi t
      ev_unfold
      repeat' split
      all_goals t_fields hi t
  case tFulfil rest h hp =>
      t_pre [h, hp] hi t
      have hcb := hi.t_cb
      ev_unfold
      split <;> t_fields hi t

-- the steps are proved in four groups because the heartbeat limit is per declaration
theorem invT_step (hz : InvZ s) (hi : InvT s) (hs : Step s l s') : InvT s' := by
  cases l
  case fadd | fsub => exact invT_step_count hz hi hs (by simp)
  case fLoad | rdy => exact invT_step_load hi hs (by simp)
  case fCas | pXchg => exact invT_step_cas hi hs (by simp)
  all_goals exact invT_step_job hi hs (by simp)

theorem invT_reachable (hok : w.ok) (h : Reachable w s) : InvT s := by
  induction h with
  | init => exact invT_init w hok
  | step hr hs ih => exact invT_step (invZ_reachable hr) ih hs

end Yaclib.Event
