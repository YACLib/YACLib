/- C20: allocations are bounded by the number of pipeline steps — an allocation-credit argument.
   Every core is one heap block (MakeUnique / MakeShared in MakeCore, MakeFuture, MakeTask, MakeContract*); a step's own core
   is allocated when the step is attached, the cores of an inner pipeline when the functor building it is invoked. -/
import YaclibModel.Proofs.PipelineRun
import YaclibModel.Proofs.PipelineInd

namespace Yaclib.Pipeline
open Yaclib.Extracted

mutual
  theorem sizeStep_eq : ∀ s : Step, sizeStep s = 1 + innerStep s
    | .mk id sig mode beh => by
      cases beh with
      | val n => rw [sizeStep, innerStep] <;> (intros; simp_all)
      | res r => rw [sizeStep, innerStep] <;> (intros; simp_all)
      | throw t => rw [sizeStep, innerStep] <;> (intros; simp_all)
      | async src lazy steps =>
        rw [sizeStep, innerStep]
        rw [sizeSteps_eq steps]
        omega
  theorem sizeSteps_eq : ∀ ss : List Step, sizeSteps ss = ss.length + innerSteps ss
    | [] => by rw [sizeSteps, innerSteps]; rfl
    | s :: ss => by
      rw [sizeSteps, innerSteps, sizeStep_eq s, sizeSteps_eq ss]
      simp only [List.length_cons]
      omega
end

theorem innerSteps_append (a b : List Step) : innerSteps (a ++ b) = innerSteps a + innerSteps b := by
  induction a with
  | nil => simp [innerSteps]
  | cons s ss ih => simp only [List.cons_append]; rw [innerSteps, innerSteps, ih]; omega

theorem innerStep_async (id : Nat) (sig : Sig) (m : Mode) (src : Src) (lazy : Bool) (steps : List Step) :
    innerStep (.mk id sig m (.async src lazy steps)) = srcCores src + steps.length + innerSteps steps := by
  rw [innerStep]

def innerWait : Wait → Nat
  | .job _ _ (.step s _ _) => innerStep s
  | _ => 0

def innerFrames : List Frame → Nat
  | [] => 0
  | f :: fs => innerSteps f.rest + innerFrames fs

def innerT (t : Thread) : Nat := innerWait t.wait + innerSteps t.rest + innerFrames t.outer

theorem innerFrames_append (a b : List Frame) : innerFrames (a ++ b) = innerFrames a + innerFrames b := by
  induction a with
  | nil => simp [innerFrames]
  | cons f fs ih => simp [innerFrames, ih]; omega

/-- the allocation count of the outcome of a cascade, plus everything its leftovers may still allocate, stays below `B` -/
def AllocOut (B extra : Nat) (k : List Step) : Out → Prop
  | .done _ _ _ g => g.cAlloc + innerSteps k + extra ≤ B
  | .parked t g => g.cAlloc + innerT t + extra ≤ B
  | .crash g => g.cAlloc ≤ B

section ca
variable (g : G) (ty : Nat) (b : Bool)
@[simp] theorem doneAcct_cAlloc : (doneAcct ty b g).cAlloc = g.cAlloc := by
  unfold doneAcct; repeat' split
  all_goals rfl
@[simp] theorem asyncRetAcct_cAlloc : (asyncRetAcct ty g).cAlloc = g.cAlloc := by
  unfold asyncRetAcct; repeat' split
  all_goals rfl
@[simp] theorem asyncDoneAcct_cAlloc : (asyncDoneAcct ty g).cAlloc = g.cAlloc := by
  unfold asyncDoneAcct; repeat' split
  all_goals rfl
end ca

theorem submit_cAlloc (cfg : Cfg) (e : Exec) (ctx : Option Nat) (g : G) :
    match submit cfg e ctx g with
    | .callNow _ g' => g'.cAlloc = g.cAlloc
    | .dropNow _ g' => g'.cAlloc = g.cAlloc
    | .queued _ _ g' => g'.cAlloc = g.cAlloc := by
  cases e with
  | inl => simp [submit]
  | stp => simp [submit]
  | user k =>
    simp only [submit]
    by_cases hr : rejects cfg g.subs k = true
    · simp [hr, G.finishJob]
    · simp only [hr]
      by_cases hq : (cfg k).queue = true <;> simp [hq, G.finishJob]

theorem startSrc_cAlloc (cfg : Cfg) (src : Src) (ctx : Option Nat) (g : G) :
    match startSrc cfg src ctx g with
    | .go _ _ _ g' => g'.cAlloc = g.cAlloc
    | .wait w _ g' => g'.cAlloc = g.cAlloc ∧ innerWait w = 0
    | .crash g' => g'.cAlloc = g.cAlloc := by
  cases src with
  | promiseFn e p f =>
    have h := submit_cAlloc cfg e ctx g
    simp only [startSrc]
    cases hs : submit cfg e ctx g with
    | callNow c g' => rw [hs] at h; simp [h, innerWait, G.freeFunctor]
    | dropNow c g' => rw [hs] at h; simp [h, G.freeFunctor]
    | queued jid k g' => rw [hs] at h; simp [h, innerWait]
  | ready r => simp [startSrc]
  | contract p f => simp [startSrc, innerWait]
  | contractOn e p f => simp [startSrc, innerWait]
  | unit => simp [startSrc]
  | sharedReady r => simp [startSrc]
  | sharedContract p f => simp [startSrc, innerWait]
  | sharedKept e p f pre => cases h : g.isSet p pre <;> simp [startSrc, h, innerWait]

theorem asyncFinish_alloc (ty : Nat) (own : Exec) (k : List Step) (lazy : Bool) (ctx : Option Nat) (o : Out)
    (B extra : Nat) (h : AllocOut B (innerSteps k + extra) [] o) :
    AllocOut B extra k (asyncFinish ty own k lazy ctx o) := by
  cases o with
  | done r inh c g =>
    simp only [AllocOut, innerSteps] at h
    cases lazy <;> simp [asyncFinish, AllocOut] <;> omega
  | parked t g =>
    simp only [AllocOut] at h
    cases lazy <;> simp [asyncFinish, AllocOut, innerT, innerFrames_append, innerFrames] at h ⊢ <;> omega
  | crash g => simpa [asyncFinish, AllocOut] using h

/-- the allocation credit as a family closed under the interpreter's moves, at index `(B, extra)`: what has been
    allocated, what the text still to be run may allocate, and `extra` set aside for the text behind it, stay within `B` -/
def allocClosed (cfg : Cfg) : Closed cfg (Nat × Nat) where
  Run p ss _ g := g.cAlloc + innerSteps ss + p.2 ≤ p.1
  Call p s k _ _ _ g := g.cAlloc + innerStep s + innerSteps k + p.2 ≤ p.1
  Start p _ steps g := g.cAlloc + innerSteps steps + p.2 ≤ p.1
  Post p k o := AllocOut p.1 p.2 k o
  nil _ _ _ h := h
  next {_ _ o} h := by cases o <;> exact h
  direct _ h := by rw [innerSteps] at h; omega
  sub {_ _ _ _ g} own ctx _ h := by
    have hc := submit_cAlloc cfg own ctx g
    rw [innerSteps] at h
    split <;> rename_i heq <;> rw [heq] at hc <;> simp only [AllocOut, innerT, innerWait, innerFrames, hc] <;> omega
  invoke h := h
  done _ _ _ h := by simp only [AllocOut, doneAcct_cAlloc]; omega
  async {p _ _ _ _ lazy _ k _ _ ctx _} own h := by
    rw [innerStep_async] at h
    refine ⟨(p.1, innerSteps k + p.2), ?_, fun o ho => asyncFinish_alloc _ own k lazy ctx o p.1 p.2 ho⟩
    cases lazy <;> simp [innerG, G.allocCore, G.allocFunctor] <;> omega
  start {_ src _ g} ctx h := by
    have hs := startSrc_cAlloc cfg src ctx g
    split <;> rename_i heq <;> rw [heq] at hs
    · rw [hs]; exact h
    · simp only [AllocOut, innerT, innerFrames, hs.1, hs.2]; omega
    · simp only [AllocOut, hs]; omega
  ready {_ _ _ g} e ctx h := by
    have hc := submit_cAlloc cfg e ctx g
    split <;> rename_i heq <;> rw [heq] at hc <;> simp only [AllocOut, innerT, innerWait, innerFrames, hc] <;> omega

theorem callStep_alloc (cfg : Cfg) (s : Step) (k : List Step) (hd dropped : Bool) (ctx : Option Nat) (via : Option Exec)
    (input0 : R) (own : Exec) (g : G) (B extra : Nat) (h : g.cAlloc + innerStep s + innerSteps k + extra ≤ B) :
    AllocOut B extra k (callStep cfg s k hd dropped ctx via input0 own g) :=
  (allocClosed cfg).callStep_post s k hd dropped ctx via input0 own g (B, extra) h

theorem runSteps_alloc (cfg : Cfg) (ss : List Step) (hd flow : Bool) (ctx : Option Nat) (r : R) (inh : Exec) (g : G)
    (B extra : Nat) (h : g.cAlloc + innerSteps ss + extra ≤ B) :
    AllocOut B extra [] (runSteps cfg ss hd flow ctx r inh g) :=
  (allocClosed cfg).runSteps_post ss hd flow ctx r inh g (B, extra) h

end Yaclib.Pipeline
