/- C15 over an executor (1): a coroutine that owns a lock (granted and runnable, or inside its section) keeps its program
   counter under every step but its own `enter` / `exit`; what the `Run` steps do to their target. -/
import YaclibModel.Proofs.CoSharedMutexInv

namespace Yaclib.CoSharedMutex

/-- owns a shared or the exclusive lock: granted and runnable, or inside the section -/
def Owns (p : Pc) : Prop := p = .racq ∨ p = .rcs ∨ p = .wacq ∨ p = .wcs

macro "fr_auto" : tactic =>
  `(tactic| (left; simp only [Owns, done, doRdFadd, lockedPc, doSpinOk, doRdUnlock, doEnter, doRdFsub, doRwFsub, doRunWriter,
      doRunFirst, doTryFail, doTrCasOk, failW, doTwLoad, doTwCasOk, doWrFadd, doWrPost, doWUnlock, doWuCasOk, doWuFsub,
      doRwStore, releaseReaders, doUUnlock, doRunR] at *; (repeat' split) <;> (try simp only [upd] at *) <;> grind))

theorem pc_frame {cfg : Cfg} {m : State} {l : Label} {m' : State} (hi : Inv cfg m) (hs : Step m l m') (n : Cid)
    (hn : Owns (m.pc n)) : m'.pc n = m.pc n ∨ l = .enter n ∨ l = .exit n := by
  cases hs with
  | rdFadd c h ht ho => fr_auto
  | spinOk c k h hf => cases k <;> fr_auto
  | spinBusy c k h hf => fr_auto
  | spinLoad c k sawFree h => fr_auto
  | rdUnlock c h hs => fr_auto
  | enterR c h =>
      by_cases hc : n = c
      · subst hc; right; left; rfl
      · left; simp only [doEnter, upd, hc, ↓reduceIte]
  | enterW c h =>
      by_cases hc : n = c
      · subst hc; right; left; rfl
      · left; simp only [doEnter, upd, hc, ↓reduceIte]
  | exitR c h =>
      by_cases hc : n = c
      · subst hc; right; right; rfl
      · left; simp only [upd, hc, ↓reduceIte]
  | exitW c h =>
      by_cases hc : n = c
      · subst hc; right; right; rfl
      · left; simp only [upd, hc, ↓reduceIte]
  | rdFsub c h => fr_auto
  | rwFsub c h => fr_auto
  | runFirst c g h hf =>
      obtain ⟨g', hpw⟩ := PW.cases_by (hi.pc_rRun c h)
      have hg : g' = g := by
        have := hi.pw_first g' (by rw [hpw]; rfl)
        rw [hf] at this; exact (Option.some.inj this).symm
      subst hg
      have hpg := (hi.pw_c g' c hpw).1
      fr_auto
  | trBegin c w r h ht ho => fr_auto
  | trFail c w r h hw => fr_auto
  | trCasOk c r h hW hR => fr_auto
  | trCasFail c r h => fr_auto
  | twLoad c sawZero h ht ho => cases sawZero <;> fr_auto
  | twCasOk c h hW hR => fr_auto
  | twCasFail c h hne => fr_auto
  | tryFailW c h => fr_auto
  | wrFadd c h hs => fr_auto
  | wrPost c r h hs => fr_auto
  | wUnlock c k h hs => cases k <;> fr_auto
  | tailUnlock c hs => left; rfl
  | wuCasOk c h hW hR => fr_auto
  | wuCasFail c h hne => fr_auto
  | wuFsub c h hs => left; simp only [doWuFsub, upd]; cases branchOf m <;> (simp only [Owns] at hn; grind)
  | rwStore c sw h hs => fr_auto
  | uUnlockW c b g rest h hs hb hq =>
      have ⟨hg, _⟩ := head_pc_wq hi hq
      have hmem : ∀ x, x ∈ m.Q ↔ m.pc x = .rparked := fun x => mem_iff_of_count (hi.l_q x)
      cases b with
      | runWriter => fr_auto
      | stored sw => fr_auto
      | readersPass sr => simp [needsWriter] at hb
      | passOnly sr => simp [needsWriter] at hb
  | uUnlockP c b h hs hb =>
      have hmem : ∀ x, x ∈ m.Q ↔ m.pc x = .rparked := fun x => mem_iff_of_count (hi.l_q x)
      cases b with
      | runWriter => simp [needsWriter] at hb
      | stored sw => simp [needsWriter] at hb
      | readersPass sr => fr_auto
      | passOnly sr => fr_auto
  | runW c g h =>
      have hg := (hi.l_wrun_t c g h).2
      fr_auto
  | runR c g rest h ht =>
      have ⟨hg, _⟩ := head_pc_torun hi ht
      fr_auto

/-- the coroutine a `Run` (Submit) step hands a lock to -/
def grantOf : Label → Option Cid
  | .runFirst _ n => some n
  | .runW _ n => some n
  | .runR _ n => some n
  | _ => none

theorem grant_target {cfg : Cfg} {m : State} {l : Label} {n : Cid} {m' : State} (hi : Inv cfg m) (hs : Step m l m')
    (hg : grantOf l = some n) : ¬ Owns (m.pc n) ∧ (m'.pc n = .racq ∨ m'.pc n = .wacq) := by
  cases hs with
  | runFirst c g h hf =>
      simp only [grantOf, Option.some.injEq] at hg; subst hg
      obtain ⟨g', hpw⟩ := PW.cases_by (hi.pc_rRun c h)
      have hgg : g' = g := by
        have := hi.pw_first g' (by rw [hpw]; rfl)
        rw [hf] at this; exact (Option.some.inj this).symm
      subst hgg
      have hpg := (hi.pw_c g' c hpw).1
      exact ⟨by simp [Owns, hpg], Or.inr (by simp [doRunFirst, upd])⟩
  | runW c g h =>
      simp only [grantOf, Option.some.injEq] at hg; subst hg
      have hpg := (hi.l_wrun_t c g h).2
      exact ⟨by simp [Owns, hpg], Or.inr (by simp [doRunWriter, upd])⟩
  | runR c g rest h ht =>
      simp only [grantOf, Option.some.injEq] at hg; subst hg
      have ⟨hpg, _⟩ := head_pc_torun hi ht
      refine ⟨by simp [Owns, hpg], Or.inl ?_⟩
      have hcg : g ≠ c := by intro he; subst he; rw [h] at hpg; cases hpg
      by_cases hr : rest = [] <;> simp [doRunR, hr, done, upd, hcg]
  | _ => simp [grantOf] at hg

theorem enter_effect {m : State} {n : Cid} {m' : State} (hs : Step m (.enter n) m') :
    (m.pc n = .racq ∧ m'.pc n = .rcs) ∨ (m.pc n = .wacq ∧ m'.pc n = .wcs) := by
  cases hs with
  | enterR _ h => exact Or.inl ⟨h, by simp [doEnter, upd]⟩
  | enterW _ h => exact Or.inr ⟨h, by simp [doEnter, upd]⟩

theorem exit_pre {m : State} {n : Cid} {m' : State} (hs : Step m (.exit n) m') : m.pc n = .rcs ∨ m.pc n = .wcs := by
  cases hs with
  | exitR _ h => exact Or.inl h
  | exitW _ h => exact Or.inr h

end Yaclib.CoSharedMutex
