/- Every client event preserves the accounting invariant; the invariant along every event list. -/
import YaclibModel.Proofs.PipelineAcct4

namespace Yaclib.Pipeline
open Yaclib.Extracted

theorem wfProg_attach (p : Prog) (s : Step) (h : wfProg { p with steps := p.steps ++ [s] } = true) :
    wfProg p = true ∧ wfStep s = true := by
  simp only [wfProg, wfSteps_append, wfSteps, Bool.and_eq_true, Bool.and_true] at h
  exact h

theorem wfProg_clientEv (p : Prog) (h : Handle) (ev : Event) (hd : wfProg (clientEv (p, h) ev).1 = true) :
    wfProg p = true := by
  cases ev <;> cases h <;> simp only [clientEv] at hd <;> try exact hd
  all_goals first
    | exact (wfProg_attach _ _ hd).1
    | (split at hd
       · exact hd
       · exact (wfProg_attach _ _ hd).1)

theorem wfSteps_overrideHead (steps : List Step) (ovr : Option Exec) :
    wfSteps (overrideHead steps ovr) = wfSteps steps := by
  cases ovr with
  | none => cases steps <;> rfl
  | some e =>
    cases steps with
    | nil => rfl
    | cons a as =>
      cases a with
      | mk i sg m b => cases b <;> simp [overrideHead, wfSteps, wfStep]

theorem length_overrideHead (steps : List Step) (ovr : Option Exec) :
    (overrideHead steps ovr).length = steps.length := by
  cases ovr with
  | none => cases steps <;> rfl
  | some e =>
    cases steps with
    | nil => rfl
    | cons a as => cases a; rfl

theorem coresFrames_attach (s : Step) : ∀ (fs : List Frame), fs ≠ [] →
    coresFrames (attachFrames fs s) = coresFrames fs + 1 ∧ funsFrames (attachFrames fs s) = funsFrames fs + 1
  | [], h => (h rfl).elim
  | [f], _ => by simp [attachFrames, coresFrames, funsFrames]; omega
  | f :: f' :: fs, _ => by
    have := coresFrames_attach s (f' :: fs) (by simp)
    simp only [attachFrames, coresFrames, funsFrames] at this ⊢
    omega

theorem wfFrames_attach (s : Step) (hs : wfStep s = true) : ∀ (fs : List Frame), wfFrames fs = true →
    wfFrames (attachFrames fs s) = true
  | [], _ => rfl
  | [f], h => by
    simp only [wfFrames, Bool.and_true] at h
    simp [attachFrames, wfFrames, wfSteps_append, wfSteps, h, hs]
  | f :: f' :: fs, h => by
    simp only [wfFrames, Bool.and_eq_true] at h
    simp only [attachFrames, wfFrames, Bool.and_eq_true]
    exact ⟨h.1, wfFrames_attach s hs (f' :: fs) (by simp [wfFrames, h.2])⟩

theorem thread_attach_acct (t : Thread) (s : Step) (hs : wfStep s = true) (ht : wfThread t = true) :
    coresT (t.attach s) = coresT t + 1 ∧ funsT (t.attach s) = funsT t + 1 ∧ wfThread (t.attach s) = true := by
  simp only [wfThread, Bool.and_eq_true] at ht
  unfold Thread.attach
  cases ho : t.outer with
  | nil =>
    simp only [coresT, funsT, ho, coresFrames, funsFrames, List.length_append, List.length_cons, List.length_nil, wfThread,
      wfSteps_append, wfSteps, wfFrames, ht.1.1, ht.1.2, hs]
    exact ⟨by omega, by omega, by simp⟩
  | cons f fs =>
    have h1 := coresFrames_attach s (f :: fs) (by simp)
    have h2 := wfFrames_attach s hs (f :: fs) (by rw [← ho]; exact ht.2)
    simp only [coresT, funsT, ho, h1.1, h1.2, wfThread, ht.1.1, ht.1.2, h2]
    exact ⟨by omega, by omega, by simp⟩

theorem ainv_step (cfg : Cfg) (st : State) (p : Prog) (h : Handle) (ev : Event)
    (hinv : wfProg p = true → AInv st p h)
    (hd' : wfProg (clientEv (p, h) ev).1 = true) :
    AInv (mech cfg st ev) (clientEv (p, h) ev).1 (clientEv (p, h) ev).2 := by
  have hdp := wfProg_clientEv p h ev hd'
  have hi := hinv hdp
  obtain ⟨ctl, held, ended, got, result, crashed, g⟩ := st
  cases hi with
  | inl hc =>
    simp only at hc
    subst hc
    exact Or.inl (by simp [mech])
  | inr hi =>
  cases crashed with
  | true => exact Or.inl (by simp [mech])
  | false =>
  simp only at hi
  unfold mech
  simp only [Bool.false_eq_true, ite_false]
  cases ctl with
  | idle => exact hi.elim
  | task src steps =>
    obtain ⟨h1, h2, h3, h4, h5⟩ := hi
    subst h1 h3
    cases ev with
    | attach s =>
      cases hdm : s.mode.isDetach
      · simp only [clientEv, hdm, Bool.false_eq_true, ite_false] at hd' ⊢
        refine Or.inr ⟨rfl, by simp [h2], rfl, fun _ => by simp, ?_⟩
        simp only [Bal, cnt_allocFunctor, cnt_allocCore, List.length_append, List.length_cons, List.length_nil] at h5 ⊢
        omega
      · simp only [clientEv, hdm, ite_true]
        exact Or.inr ⟨rfl, h2, rfl, h4, h5⟩
    | start sk =>
      simp only [clientEv]
      have hsteps : wfSteps steps = true := by
        have := hdp; simp only [wfProg, h2] at this; exact this
      simp only [started_eq]
      refine ainv_settle _ _ _ _ ?_
        ((acctClosed cfg).startLazy_post (p := (0, 0)) true none sk.ovr ⟨?_, ?_, ?_⟩).2
      · cases hk : sk.holds
        · exact Or.inr ⟨by simp, rfl⟩
        · exact Or.inl ⟨by simp, rfl⟩
      · rw [wfSteps_overrideHead]; exact hsteps
      · rw [onStart_unit]
        intro hu he
        have := h4 hu
        cases steps with
        | nil => exact this rfl
        | cons a as =>
          cases hov : (if (src == Src.unit) = true then sk.ovr else none) with
          | none => rw [hov] at he; simp [overrideHead] at he
          | some e => rw [hov] at he; cases a; simp [overrideHead] at he
      · rw [srcCores_onStart, srcFunctors_onStart, length_overrideHead]
        simpa using h5
    | src s lazy head => exact Or.inr ⟨rfl, h2, rfl, h4, h5⟩
    | set q => exact Or.inr ⟨rfl, h2, rfl, h4, h5⟩
    | call k => exact Or.inr ⟨rfl, h2, rfl, h4, h5⟩
    | dropFuture => exact Or.inr ⟨rfl, h2, rfl, h4, h5⟩
    | get => exact Or.inr ⟨rfl, h2, rfl, h4, h5⟩
  | future r inh =>
    obtain ⟨h1, h2, h3⟩ := hi
    subst h1 h2
    cases ev with
    | attach s =>
      have hws := (wfProg_attach p s (by simpa [clientEv] using hd')).2
      simp only [clientEv, Bool.not_true, Bool.false_eq_true, ite_false]
      have hacct : AcctOut 0 0 [] (runSteps cfg [s] false false none r inh g.allocCore.allocFunctor) := by
        apply runSteps_acct cfg [s] false false none r inh _ 0 0 (by simp [wfSteps, hws]) (by intro h; cases h)
        simp only [Bal, cnt_allocFunctor, cnt_allocCore] at h3 ⊢
        simp at h3 ⊢
        omega
      cases hdm : s.mode.isDetach
      · simp only [Bool.false_eq_true, ite_false]
        exact ainv_settle _ _ _ _ (Or.inl ⟨rfl, rfl⟩) hacct
      · simp only [ite_true]
        exact ainv_settle _ _ _ _ (Or.inr ⟨rfl, rfl⟩) hacct
    | dropFuture =>
      simp only [clientEv, ite_true]
      refine Or.inr ⟨rfl, ?_⟩
      simp only [Bal, cnt_freeCore] at h3 ⊢
      omega
    | get =>
      simp only [clientEv, ite_true]
      refine Or.inr ⟨rfl, ?_⟩
      simp only [Bal, cnt_freeCore] at h3 ⊢
      omega
    | src s lazy head => exact Or.inr ⟨rfl, rfl, h3⟩
    | set q => exact Or.inr ⟨rfl, rfl, h3⟩
    | call k => exact Or.inr ⟨rfl, rfl, h3⟩
    | start sk => exact Or.inr ⟨rfl, rfl, h3⟩
  | pending t =>
    obtain ⟨h1, h2, h3⟩ := hi
    cases ev with
    | attach s =>
      cases h1 with
      | inl h1 =>
        obtain ⟨a1, a2⟩ := h1
        subst a1 a2
        have hws := (wfProg_attach p s (by simpa [clientEv] using hd')).2
        simp only [clientEv, Bool.not_true, Bool.false_eq_true, ite_false]
        obtain ⟨b1, b2, b3⟩ := thread_attach_acct t s hws h3
        have hb : Bal g.allocCore.allocFunctor (coresT (t.attach s)) (funsT (t.attach s)) := by
          simp only [Bal, cnt_allocFunctor, cnt_allocCore, b1, b2] at h2 ⊢
          omega
        cases hdm : s.mode.isDetach
        · exact Or.inr ⟨Or.inl ⟨by simp, rfl⟩, hb, b3⟩
        · exact Or.inr ⟨Or.inr ⟨by simp, rfl⟩, hb, b3⟩
      | inr h1 =>
        obtain ⟨a1, a2⟩ := h1
        subst a1 a2
        exact Or.inr ⟨Or.inr ⟨rfl, rfl⟩, h2, h3⟩
    | set q =>
      simp only [clientEv]
      cases hw : t.wait with
      | job jid k jk => exact Or.inr (by simp only []; exact ⟨h1, h2, h3⟩)
      | promise q' f =>
        simp only []
        by_cases hq : q = q'
        · simp only [hq, ite_true]
          exact ainv_settle _ _ _ _ h1 (resume_acct cfg t none (g.markSet q') 0 0 h3 (by simpa [Bal, cnt] using h2))
        · simp only [hq, ite_false]
          exact Or.inr ⟨h1, h2, h3⟩
    | call k =>
      simp only [clientEv]
      cases hw : t.wait with
      | promise q' f => exact Or.inr (by simp only []; exact ⟨h1, h2, h3⟩)
      | job jid k' jk =>
        simp only []
        by_cases hq : k = k'
        · simp only [hq, ite_true]
          exact ainv_settle _ _ _ _ h1 (resume_acct cfg t (some k') g 0 0 h3 (by simpa using h2))
        · simp only [hq, ite_false]
          exact Or.inr ⟨h1, h2, h3⟩
    | dropFuture =>
      cases h1 with
      | inl h1 => obtain ⟨a1, a2⟩ := h1; subst a1 a2; exact Or.inr ⟨Or.inr ⟨rfl, rfl⟩, h2, h3⟩
      | inr h1 => obtain ⟨a1, a2⟩ := h1; subst a1 a2; exact Or.inr ⟨Or.inr ⟨rfl, rfl⟩, h2, h3⟩
    | get =>
      cases h1 with
      | inl h1 => obtain ⟨a1, a2⟩ := h1; subst a1 a2; exact Or.inr ⟨Or.inr ⟨rfl, rfl⟩, h2, h3⟩
      | inr h1 => obtain ⟨a1, a2⟩ := h1; subst a1 a2; exact Or.inr ⟨Or.inr ⟨rfl, rfl⟩, h2, h3⟩
    | src s lazy head =>
      cases h1 with
      | inl h1 => obtain ⟨a1, a2⟩ := h1; subst a1 a2; exact Or.inr ⟨Or.inl ⟨rfl, rfl⟩, h2, h3⟩
      | inr h1 => obtain ⟨a1, a2⟩ := h1; subst a1 a2; exact Or.inr ⟨Or.inr ⟨rfl, rfl⟩, h2, h3⟩
    | start sk =>
      cases h1 with
      | inl h1 => obtain ⟨a1, a2⟩ := h1; subst a1 a2; exact Or.inr ⟨Or.inl ⟨rfl, rfl⟩, h2, h3⟩
      | inr h1 => obtain ⟨a1, a2⟩ := h1; subst a1 a2; exact Or.inr ⟨Or.inr ⟨rfl, rfl⟩, h2, h3⟩
  | gone =>
    obtain ⟨h1, h2⟩ := hi
    subst h1
    cases ev <;> exact Or.inr ⟨rfl, h2⟩

end Yaclib.Pipeline

namespace Yaclib.Pipeline
open Yaclib.Extracted

theorem ainv_src (cfg : Cfg) (s : Src) (lazy : Bool) (head : Option Step)
    (hwf : ((s == Src.unit) != head.isSome) = false)
    (hd : wfProg ⟨s, lazy, head.toList, none⟩ = true) :
    AInv (mech cfg {} (.src s lazy head)) ⟨s, lazy, head.toList, none⟩ (if lazy then .task else .fut) := by
  have hunit : (s == Src.unit) = head.isSome := by
    cases h1 : (s == Src.unit) <;> cases h2 : head.isSome <;> simp_all
  have hne : (s == Src.unit) = true → head.toList ≠ [] := by
    intro h; rw [hunit] at h; cases head <;> simp_all
  simp only [mech, Bool.false_eq_true, ite_false, hwf]
  cases lazy with
  | true =>
    refine Or.inr ⟨rfl, rfl, rfl, hne, ?_⟩
    simp [Bal, cnt, G.allocCore, G.allocFunctor]
  | false =>
    simp only [Bool.false_eq_true, ite_false]
    simp only [started_eq]
    refine ainv_settle _ _ _ _ (Or.inl ⟨rfl, rfl⟩)
      ((acctClosed cfg).afterStart_post (p := (0, 0)) false none ⟨hd, hne, ?_⟩).2
    simp [Bal, cnt, G.allocCore, G.allocFunctor]

/-- **the accounting invariant holds after every list of client events** (for well-formed programs) -/
theorem ainv_run (cfg : Cfg) : ∀ (evs : List Event),
    match client evs with
    | none => run cfg {} evs = {}
    | some (p, h) => wfProg p = true → AInv (run cfg {} evs) p h :=
  run_client cfg (I := fun st p h => wfProg p = true → AInv st p h) (fun st p h ev => ainv_step cfg st p h ev)
    (fun s lazy head hwf => ainv_src cfg s lazy head hwf)

end Yaclib.Pipeline
