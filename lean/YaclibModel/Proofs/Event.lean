/- Invariants of the C16 model (Model/Event.lean), part 1: futures (Ready is sound, consumed cores are released exactly as
   often as they were consumed) and "a release happens only after a decrement has reached zero". -/
import YaclibModel.Model.Event

namespace Yaclib.Event

theorem updT_same (f : Nat → Thr) (i : Nat) (x : Thr) : updT f i x i = x := by simp [updT]
theorem updT_other (f : Nat → Thr) (i j : Nat) (x : Thr) (h : j ≠ i) : updT f i x j = f j := by simp [updT, h]
theorem updF_same (f : Nat → Fut) (i : Nat) (x : Fut) : updF f i x i = x := by simp [updF]
theorem updF_other (f : Nat → Fut) (i j : Nat) (x : Fut) (h : j ≠ i) : updF f i x j = f j := by simp [updF, h]
theorem updJ_same (f : Nat → Job) (i : Nat) (x : Job) : updJ f i x i = x := by simp [updJ]
theorem updJ_other (f : Nat → Job) (i j : Nat) (x : Job) (h : j ≠ i) : updJ f i x j = f j := by simp [updJ, h]

theorem updT_updT (f : Nat → Thr) (i : Nat) (x y : Thr) : updT (updT f i x) i y = updT f i y := by
  funext j; simp only [updT]; split <;> rfl
theorem updJ_updJ (f : Nat → Job) (i : Nat) (x y : Job) : updJ (updJ f i x) i y = updJ f i y := by
  funext j; simp only [updJ]; split <;> rfl

theorem markRunning_mem (job : Nat → Job) (l : List Nat) (j : Nat) (h : j ∈ l) :
    markRunning job l j = { job j with st := .running } := by simp [markRunning, h]
theorem markRunning_not_mem (job : Nat → Job) (l : List Nat) (j : Nat) (h : j ∉ l) : markRunning job l j = job j := by
  simp [markRunning, h]

/-- thread is inside `SetImpl` -/
def Pc.setter : Pc → Bool
  | .xchgHead | .run _ _ | .runDec _ _ => true
  | _ => false

/-- the job whose owner-side wait operation the thread is executing -/
def Pc.owner : Pc → Option Nat
  | .tryL j | .tryC j _ | .resume j | .bLock j | .bHeld j | .bAsleep j | .bTimedOut j | .bUnlockRet j _ | .bDec j _ | .rep j _ => some j
  | _ => none

/-- the thread is about to report a release of job `j` (or is on the straight path to it) -/
def Pc.releasing : Pc → Bool
  | .resume _ | .bUnlockRet _ true | .bDec _ true | .rep _ true => true
  | _ => false

theorem headObs_done (h : Option (List Nat)) : headObs h .done ↔ h = none := by simp [headObs]
theorem headObs_cur (h : Option (List Nat)) (l : List Nat) : headObs h (.cur l) ↔ h = some l := by simp [headObs]
theorem expOf_done (h : Option (List Nat)) : expOf h = .done ↔ h = none := by cases h <;> simp [expOf]
theorem expOf_cur (h : Option (List Nat)) (l : List Nat) : expOf h = .cur l ↔ h = some l := by cases h <;> simp [expOf]
theorem expOf_ne_stale (h : Option (List Nat)) : expOf h ≠ .stale := by cases h <;> simp [expOf]

theorem Pc.releasing_rep (j : Nat) (b : Bool) : (Pc.rep j b).releasing = b := by cases b <;> rfl
theorem Pc.releasing_bUnlockRet (j : Nat) (b : Bool) : (Pc.bUnlockRet j b).releasing = b := by cases b <;> rfl
theorem Pc.releasing_bDec (j : Nat) (b : Bool) : (Pc.bDec j b).releasing = b := by cases b <;> rfl

/-- futures: `Ready()` is sound, the accounting of consumed cores -/
structure InvA (s : State) : Prop where
  a_res : ∀ f, (s.fut f).word = .result ↔ (s.fut f).completed = true
  a_rdy : ∀ t f b c, (s.thr t).pc = .rdy f b c → b = true → c = true
  a_obs : ∀ x, x ∈ s.readyObs → x.2.1 = true → x.2.2 = true
  a_con : ∀ f, (s.fut f).nfree + (if (s.fut f).word = .drop then 1 else 0) = (s.fut f).ncon

/-- a release only after a decrement has reached zero -/
structure InvZ (s : State) : Prop where
  z_head : s.head = none → s.zeroed = true
  z_pc : ∀ t, (s.thr t).pc.setter = true → s.zeroed = true
  z_ready : ∀ j, (s.job j).ready = true → s.zeroed = true
  z_failed : ∀ j, (s.job j).st = .failed → s.zeroed = true
  z_rel : ∀ t, (s.thr t).pc.releasing = true → s.zeroed = true
  z_nz : s.zeroed = true ↔ 1 ≤ s.nzero

theorem invA_init (w : Workload) : InvA (init w) := by
  constructor <;> simp [init] <;> intro t <;> split <;> simp

theorem invZ_init (w : Workload) : InvZ (init w) := by
  constructor <;> simp [init] <;> intro t <;> split <;> simp [Pc.setter, Pc.releasing]

/-- unfolds the effect of a step down to record updates -/
macro "ev_unfold" : tactic => `(tactic| simp only [doAdd, doSub, doInsAdd, insNext, insFail, doInsLoad, doInsCasOk, doFulfil, doCbSub,
  runNext, doXchgHead, touch, doRunLock, doRunUnlock, decJob, doRunDec, doRunRel, newJob, notAdded, tryWith, doStartLoad, doPushed,
  doBLock, doBSleep, doBUnlockRet, doBDec, doRep, doResume, finish, goto, setT, updT_updT, updJ_updJ, updT_same, updJ_same])

theorem Pc.setter_idle : Pc.idle.setter = false := rfl
theorem Pc.setter_insReg (fs : List Nat) (c wc : Nat) (b : Bool) : (Pc.insReg fs c wc b).setter = false := rfl
theorem Pc.setter_insCas (f : Nat) (fs : List Nat) (c wc : Nat) (b : Bool) : (Pc.insCas f fs c wc b).setter = false := rfl
theorem Pc.setter_insSub (k : Nat) : (Pc.insSub k).setter = false := rfl
theorem Pc.setter_cbSub : Pc.cbSub.setter = false := rfl
theorem Pc.setter_rdy (f : Nat) (b c : Bool) : (Pc.rdy f b c).setter = false := rfl
theorem Pc.setter_tryL (j : Nat) : (Pc.tryL j).setter = false := rfl
theorem Pc.setter_tryC (j : Nat) (x : Exp) : (Pc.tryC j x).setter = false := rfl
theorem Pc.setter_resume (j : Nat) : (Pc.resume j).setter = false := rfl
theorem Pc.setter_bLock (j : Nat) : (Pc.bLock j).setter = false := rfl
theorem Pc.setter_bHeld (j : Nat) : (Pc.bHeld j).setter = false := rfl
theorem Pc.setter_bAsleep (j : Nat) : (Pc.bAsleep j).setter = false := rfl
theorem Pc.setter_bTimedOut (j : Nat) : (Pc.bTimedOut j).setter = false := rfl
theorem Pc.setter_bUnlockRet (j : Nat) (b : Bool) : (Pc.bUnlockRet j b).setter = false := rfl
theorem Pc.setter_bDec (j : Nat) (b : Bool) : (Pc.bDec j b).setter = false := rfl
theorem Pc.setter_rep (j : Nat) (b : Bool) : (Pc.rep j b).setter = false := rfl
theorem Pc.owner_idle : Pc.idle.owner = none := rfl
theorem Pc.owner_xchgHead : Pc.xchgHead.owner = none := rfl
theorem Pc.owner_run (js : List Nat) (b : Bool) : (Pc.run js b).owner = none := rfl
theorem Pc.owner_runDec (j : Nat) (rest : List Nat) : (Pc.runDec j rest).owner = none := rfl
theorem Pc.owner_insReg (fs : List Nat) (c wc : Nat) (b : Bool) : (Pc.insReg fs c wc b).owner = none := rfl
theorem Pc.owner_insCas (f : Nat) (fs : List Nat) (c wc : Nat) (b : Bool) : (Pc.insCas f fs c wc b).owner = none := rfl
theorem Pc.owner_insSub (k : Nat) : (Pc.insSub k).owner = none := rfl
theorem Pc.owner_cbSub : Pc.cbSub.owner = none := rfl
theorem Pc.owner_rdy (f : Nat) (b c : Bool) : (Pc.rdy f b c).owner = none := rfl

-- `grind` sees the clauses of the invariants at the terms they speak of.  `Pc.setter` and `Pc.owner` are given by one equation
-- per constructor: these apply to a program counter known by an equation, which the last equation of the definitions
-- (one premise per constructor named before) does not, and that one is instantiated at every unknown program counter
namespace Auto
attribute [scoped grind =] Pc.releasing Pc.setter.eq_1 Pc.setter.eq_2 Pc.setter.eq_3 Pc.owner.eq_1 Pc.owner.eq_2 Pc.owner.eq_3 Pc.owner.eq_4 Pc.owner.eq_5
  Pc.owner.eq_6 Pc.owner.eq_7 Pc.owner.eq_8 Pc.owner.eq_9 Pc.owner.eq_10 Pc.owner_idle Pc.owner_xchgHead Pc.owner_run
  Pc.owner_runDec Pc.owner_insReg Pc.owner_insCas Pc.owner_insSub Pc.owner_cbSub Pc.owner_rdy
  Pc.setter_idle Pc.setter_insReg Pc.setter_insCas Pc.setter_insSub Pc.setter_cbSub Pc.setter_rdy Pc.setter_tryL Pc.setter_tryC
  Pc.setter_resume Pc.setter_bLock Pc.setter_bHeld Pc.setter_bAsleep Pc.setter_bTimedOut Pc.setter_bUnlockRet Pc.setter_bDec Pc.setter_rep
attribute [scoped grind =] updT_same updT_other updF_same updF_other updJ_same updJ_other markRunning_mem markRunning_not_mem
  headObs_done headObs_cur expOf_done expOf_cur Pc.releasing_rep Pc.releasing_bUnlockRet Pc.releasing_bDec
attribute [scoped grind .] expOf_ne_stale
scoped grind_pattern InvA.a_res => InvA s, s.fut f
scoped grind_pattern InvA.a_rdy => InvA s, s.thr t, Pc.rdy f b c
scoped grind_pattern InvA.a_obs => InvA s, x ∈ s.readyObs
scoped grind_pattern InvA.a_con => InvA s, s.fut f
scoped grind_pattern InvZ.z_head => InvZ s, s.head, s.zeroed
scoped grind_pattern InvZ.z_pc => InvZ s, s.thr t, s.zeroed
scoped grind_pattern InvZ.z_ready => InvZ s, (s.job j).ready, s.zeroed
scoped grind_pattern InvZ.z_failed => InvZ s, (s.job j).st, s.zeroed
scoped grind_pattern InvZ.z_rel => InvZ s, s.thr t, s.zeroed
scoped grind_pattern InvZ.z_nz => InvZ s, s.zeroed
scoped grind_pattern InvZ.z_nz => InvZ s, s.nzero
end Auto
open Auto

variable {s s' : State} {l : Label} {w : Workload}

theorem invA_step (hi : InvA s) (hs : Step s l s') : InvA s' := by
  cases hs
  all_goals (ev_unfold; repeat' split)
  all_goals constructor <;> grind

theorem invZ_step (hi : InvZ s) (hs : Step s l s') : InvZ s' := by
  cases hs
  all_goals (ev_unfold; repeat' split)
  all_goals constructor <;> grind

theorem invA_reachable (h : Reachable w s) : InvA s := by
  induction h with
  | init => exact invA_init w
  | step _ hs ih => exact invA_step ih hs

theorem invZ_reachable (h : Reachable w s) : InvZ s := by
  induction h with
  | init => exact invZ_init w
  | step _ hs ih => exact invZ_step ih hs

end Yaclib.Event
