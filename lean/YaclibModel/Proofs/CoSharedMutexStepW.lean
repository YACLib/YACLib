/- `Inv` is preserved by the steps of writers: TryLockAwait, AwaitLock, UnlockHere, SlowUnlock and the `Run` loops. -/
import YaclibModel.Proofs.CoSharedMutex
namespace Yaclib.CoSharedMutex
open Auto

/-- `TryLockAwait` returned false -/
theorem inv_failW {cfg : Cfg} {s : State} (hi : Inv cfg s) (c : Cid) (h : (s.pc c).cls = 1 ∧ (s.pc c).isInRound = false)
    (ht : s.todo c ≠ []) : Inv cfg (failW s c) := by
  unfold failW
  exact hi.move c (by rw [h.1, h.2]; split <;> exact ⟨rfl, rfl⟩) (by split <;> simp [Pc.cls]) fun _ => ht

theorem inv_twLoad {cfg : Cfg} {s : State} (hi : Inv cfg s) (c : Cid) (sawZero : Bool) (h : s.pc c = .idle) (ht : s.todo c ≠ []) (ho : curOp s c = .wr ∨ curOp s c = .tryWr) :
    Inv cfg (doTwLoad s c sawZero) := by
  cases sawZero
  · exact inv_failW hi c (by simp [h, Pc.cls, Pc.isInRound]) ht
  · exact hi.move c (by simp [h, Pc.cls, Pc.isInRound]) (by simp [Pc.cls]) fun _ => ht

theorem inv_twCasOk {cfg : Cfg} {s : State} (hi : Inv cfg s) (c : Cid) (h : s.pc c = .twLoaded) (hW : s.W = 0) (hR : s.R = 0) :
    Inv cfg (doTwCasOk s c) := by
  have hpwn := hi.pw_none_of_W0 hW
  inv_auto

theorem inv_twCasFail {cfg : Cfg} {s : State} (hi : Inv cfg s) (c : Cid) (h : s.pc c = .twLoaded) (hne : ¬ (s.W = 0 ∧ s.R = 0)) :
    Inv cfg (failW s c) := by
  exact inv_failW hi c (by simp [h, Pc.cls, Pc.isInRound]) (hi.busy_todo c (by simp [h]))

/- An effect that branches at the top is restated field by field (`do…_eq`): a clause then meets the `if` only in
   the fields it reads, and the step is one pass over the clauses. -/
theorem doWrFadd_eq (s : State) (c : Cid) : doWrFadd s c =
    { s with W := s.W + 1, wfirst := if s.W = 0 then some c else s.wfirst,
             excl := if s.W = 0 ∧ s.R = 0 then some c else s.excl, ew := if s.W = 0 ∧ s.R = 0 then 1 else s.ew,
             pw := if s.W = 0 ∧ s.R ≠ 0 then .a c s.R else s.pw, enq := if s.W = 0 then s.enq else 1,
             pc := upd s.pc c (if s.W = 0 then (if s.R = 0 then .wUnl .acq else .wPost s.R) else .wUnl .enq) } := by
  by_cases hW : s.W = 0 <;> by_cases hR : s.R = 0 <;> simp [doWrFadd, hW, hR]

theorem inv_wrFadd {cfg : Cfg} {s : State} (hi : Inv cfg s) (c : Cid) (h : s.pc c = .wLocked) (hs : s.spin = .held c) :
    Inv cfg (doWrFadd s c) := by
  have hpb := pendBy_none_of_held hi hs (by rw [h]; rfl)
  have hpd := hi.pend_none hpb
  have henq := hi.enq_zero hs (by simp [h])
  have hpwn := hi.pw_none_of_W0 (s := s)
  rw [doWrFadd_eq]; inv_auto

theorem doWrPost_eq (s : State) (c : Cid) (r : Nat) : doWrPost s c r =
    { s with rwait := s.rwait + r, pw := if s.rwait = -(r : Int) then .none else .b c,
             excl := if s.rwait = -(r : Int) then some c else s.excl, ew := if s.rwait = -(r : Int) then 1 else s.ew,
             spin := if s.rwait = -(r : Int) then s.spin else .tailOf c,
             pc := upd s.pc c (if s.rwait = -(r : Int) then .wUnl .acq else .wparkedF),
             parks := upd s.parks c (if s.rwait = -(r : Int) then s.parks c else s.parks c + 1) } := by
  by_cases hp : s.rwait = -(r : Int) <;> simp [doWrPost, hp, upd_self]

theorem inv_wrPost {cfg : Cfg} {s : State} (hi : Inv cfg s) (c : Cid) (r : Nat) (h : s.pc c = .wPost r) (hs : s.spin = .held c) :
    Inv cfg (doWrPost s c r) := by
  have henq := hi.enq_zero hs (by simp [h])
  rw [doWrPost_eq]; inv_auto

theorem doWUnlock_eq (s : State) (c : Cid) (k : WUnl) : doWUnlock s c k =
    { s with spin := .free, WQ := if k = .enq then s.WQ ++ [c] else s.WQ, enq := if k = .enq then 0 else s.enq,
             prio := if k = .enq ∧ s.cfg.fifo ∧ s.Q = [] then s.prio + 1 else s.prio,
             pc := upd s.pc c (if k = .enq then .wparkedQ else .wacq),
             parks := upd s.parks c (if k = .enq then s.parks c + 1 else s.parks c) } := by
  cases k <;> simp [doWUnlock, upd_self]

theorem inv_wUnlock {cfg : Cfg} {s : State} (hi : Inv cfg s) (c : Cid) (k : WUnl) (h : s.pc c = .wUnl k) (hs : s.spin = .held c) :
    Inv cfg (doWUnlock s c k) := by
  have henq := hi.l_enq_held c hs
  rw [doWUnlock_eq]; inv_auto

theorem inv_tailUnlock {cfg : Cfg} {s : State} (hi : Inv cfg s) (c : Cid) (hs : s.spin = .tailOf c) :
    Inv cfg ({ s with spin := .free }) := by
  inv_auto

theorem inv_wuCasOk {cfg : Cfg} {s : State} (hi : Inv cfg s) (c : Cid) (h : s.pc c = .wUn0) (hW : s.W = 1) (hR : s.R = 0) :
    Inv cfg (doWuCasOk s c) := by
  have hown := hi.owner c (by rw [h]; rfl)
  inv_auto

theorem inv_wuCasFail {cfg : Cfg} {s : State} (hi : Inv cfg s) (c : Cid) (h : s.pc c = .wUn0) (hne : ¬ (s.W = 1 ∧ s.R = 0)) :
    Inv cfg ({ s with pc := upd s.pc c (.spinning .un false) }) := by
  exact hi.move c (by simp [h, Pc.cls, Pc.isInRound]) (by simp [Pc.cls]) fun _ => hi.busy_todo c (by simp [h])

/-- the path `SlowUnlock` takes, read off the protected record and the word -/
theorem branchOf_spec (s : State) :
    match branchOf s with
    | .runWriter => if s.cfg.fifo = true then s.prio ≠ 0 else s.Q = [] ∧ s.W ≠ 1
    | .stored sw => sw = s.W ∧ ¬ (s.cfg.fifo = true ∧ s.prio ≠ 0) ∧ s.Q ≠ [] ∧ s.W ≠ 1
    | .readersPass sr => sr = s.R ∧ ¬ (s.cfg.fifo = true ∧ s.prio ≠ 0) ∧ s.Q ≠ [] ∧ s.W = 1
    | .passOnly sr => sr = s.R ∧ ¬ (s.cfg.fifo = true ∧ s.prio ≠ 0) ∧ s.Q = [] ∧ ¬ (s.cfg.fifo = false ∧ s.W ≠ 1) := by
  cases hf : s.cfg.fifo <;> by_cases hp : s.prio = 0 <;> by_cases hq : s.Q = [] <;> by_cases hw : s.W = 1 <;>
    simp [branchOf, *]

attribute [local grind cases] Branch
attribute [local grind] givesUp

/- The path stays a variable `b` that `branchOf_spec` constrains: only the clauses that depend on it split on it. -/
theorem inv_wuFsub {cfg : Cfg} {s : State} (hi : Inv cfg s) (c : Cid) (h : s.pc c = .uLocked) (hs : s.spin = .held c) :
    Inv cfg (doWuFsub s c) := by
  have hown := hi.owner c (by rw [h]; rfl)
  have henq := hi.enq_zero hs (by simp [h])
  have hb := branchOf_spec s
  simp only [doWuFsub]
  generalize branchOf s = b at hb ⊢
  inv_auto

theorem inv_rwStore {cfg : Cfg} {s : State} (hi : Inv cfg s) (c : Cid) (sw : Nat) (h : s.pc c = .uStore sw) (hs : s.spin = .held c) :
    Inv cfg (doRwStore s c sw) := by
  have hown := hi.owner c (by rw [h]; rfl)
  have hnw := hi.need_w c (by rw [h]; rfl)
  inv_auto

theorem inv_uUnlockW_run {cfg : Cfg} {s : State} (hi : Inv cfg s) (c n : Cid) (rest : List Cid)
    (h : s.pc c = .uUnl .runWriter) (hs : s.spin = .held c) (hq : s.WQ = n :: rest) :
    Inv cfg (doUUnlock s c .runWriter n rest) := by
  have ⟨hn, hnr⟩ := head_pc_wq hi hq
  have hrest := count_tail hq
  have hown := hi.owner c (by rw [h]; rfl)
  have henq := hi.enq_zero hs (by simp [h])
  simp only [doUUnlock]; inv_auto

theorem inv_uUnlockW_stored {cfg : Cfg} {s : State} (hi : Inv cfg s) (c n : Cid) (rest : List Cid) (sw : Nat)
    (h : s.pc c = .uUnl (.stored sw)) (hs : s.spin = .held c) (hq : s.WQ = n :: rest) :
    Inv cfg (doUUnlock s c (.stored sw) n rest) := by
  have ⟨hn, hnr⟩ := head_pc_wq hi hq
  have hrest := count_tail hq
  have hng := hi.not_rgranted (hi.j7 c (by rw [h]; rfl))
  have hmem : ∀ x, x ∈ s.Q ↔ s.pc x = .rparked := fun x => mem_iff_of_count (hi.l_q x)
  have hown := hi.owner c (by rw [h]; rfl)
  have henq := hi.enq_zero hs (by simp [h])
  simp only [doUUnlock]; inv_auto

theorem inv_uUnlockW {cfg : Cfg} {s : State} (hi : Inv cfg s) (c : Cid) (b : Branch) (n : Cid) (rest : List Cid) (h : s.pc c = .uUnl b) (hs : s.spin = .held c) (hb : needsWriter b = true) (hq : s.WQ = n :: rest) :
    Inv cfg (doUUnlock s c b n rest) := by
  cases b with
  | runWriter => exact inv_uUnlockW_run hi c n rest h hs hq
  | stored sw => exact inv_uUnlockW_stored hi c n rest sw h hs hq
  | readersPass sr => cases hb
  | passOnly sr => cases hb

theorem inv_uUnlockP {cfg : Cfg} {s : State} (hi : Inv cfg s) (c : Cid) (b : Branch) (h : s.pc c = .uUnl b) (hs : s.spin = .held c) (hb : needsWriter b = false) :
    Inv cfg (doUUnlock s c b 0 []) := by
  cases b with
  | runWriter => simp [needsWriter] at hb
  | stored sw => simp [needsWriter] at hb
  | readersPass sr =>
      have hmem : ∀ x, x ∈ s.Q ↔ s.pc x = .rparked := fun x => mem_iff_of_count (hi.l_q x)
      have h7 := hi.j7 c (by rw [h]; rfl)
      have hng := hi.not_rgranted h7
      have hpa := hi.pend_amt c sr (Or.inl h)
      have hst : ∀ x sw, s.pc x ≠ .uStore sw ∧ s.pc x ≠ .uUnl (.stored sw) := fun x sw => by
        constructor <;> intro hx <;> have := (hi.l_held x).mp (by rw [hx]; rfl) <;> simp_all
      simp only [doUUnlock]; inv_auto
  | passOnly sr =>
      have hpa := hi.pend_amt c sr (Or.inr h)
      have henq := hi.enq_zero hs (by simp [h])
      simp only [doUUnlock]; inv_auto

theorem inv_runW {cfg : Cfg} {s : State} (hi : Inv cfg s) (c : Cid) (n : Cid) (h : s.pc c = .uRunW n) :
    Inv cfg (doRunWriter s c n) := by
  have hn := hi.l_wrun_t c n h
  have hew := hi.l_ew_some n hn.1
  inv_auto

theorem doRunR_eq (s : State) (c n : Cid) (rest : List Cid) : doRunR s c n rest =
    { s with torun := rest, ar := n :: s.ar, grants := upd s.grants n (s.grants n + 1),
             runner := if rest = [] then none else s.runner,
             pc := upd (upd s.pc n .racq) c (if rest = [] then .idle else upd s.pc n .racq c),
             todo := upd s.todo c (if rest = [] then (s.todo c).tail else s.todo c) } := by
  by_cases hr : rest = [] <;> simp [doRunR, done, hr, upd_self]

theorem inv_runR {cfg : Cfg} {s : State} (hi : Inv cfg s) (c : Cid) (n : Cid) (rest : List Cid) (h : s.pc c = .uRunR) (ht : s.torun = n :: rest) :
    Inv cfg (doRunR s c n rest) := by
  have ⟨hn, hnr⟩ := head_pc_torun hi ht
  have hrest := count_tail ht
  rw [doRunR_eq]; inv_auto

end Yaclib.CoSharedMutex
