/- The reference counter of the C06 model: who owns how many references, when the core is freed, and what the
   counter values read by `GetRef()` imply (the move-or-copy decisions). -/
import YaclibModel.Proofs.SharedC
namespace Yaclib.Shared

structure InvR (s : State) : Prop where
  /-- every reference is accounted for: the promise's, the threads', the executor jobs', the When-style callbacks' -/
  cnt : s.count = promRefs s.fpc + s.holders + s.jobs.length + s.jobsRun.length
          + retCnt (wordList s.word) + retCnt (walkList s.fpc) + s.rets.length + s.retsLd.length
  freed_eq : s.freed = if s.count = 0 then 1 else 0
  /-- what the fulfiller's `GetRef()` returned -/
  f_refd : ∀ c rest d n, s.fpc = .walk (c :: rest) d (.refd n) →
    2 ≤ n ∧ (n = 2 → s.count = 2)
  /-- `if (ref == 1) caller.DecRef()` of ResultCore::Impl is never taken when the caller is a shared core -/
  f_post : ∀ l d, s.fpc ≠ .walk l d .post
  /-- what the `GetRef()` of a pending Retire() returned / what an observer's `GetRef()` returned (Get()&&) -/
  ld_refd : ∀ c n, (c, n) ∈ s.retsLd → 1 ≤ n ∧ (n = 1 → s.count = 1)
  o_got : ∀ t n, (s.obs t).pc = .gotRef n → 1 ≤ n ∧ (n = 1 → s.count = 1)
  /-- after a move-out nothing is left that could read the value -/
  moved : s.movedOut = true →
    (∀ l d st, s.fpc ≠ .walk l d st) ∧ s.fpc ≠ .start ∧ s.jobs = [] ∧ s.jobsRun = [] ∧ s.holders ≤ 1 ∧
    s.rets = [] ∧ s.retsLd = []
  moved_obs : ∀ t, s.movedOut = true → 0 < (s.obs t).refs → (s.obs t).pc = .idle ∧ (s.obs t).todo.head? = some .drop

theorem invR_init (w : Workload) : InvR (init w) := by
  constructor <;> simp [init, promiseRefs, wordList, walkList]

theorem nil_or_length_pos {α : Type} (l : List α) : l = [] ∨ 0 < l.length := by
  cases l <;> simp

theorem erase_nil_or_two_le {α : Type} [BEq α] [LawfulBEq α] {l : List α} {a : α} (h : a ∈ l) :
    l.erase a = [] ∨ 2 ≤ l.length := by
  have h1 := List.length_erase_of_mem h
  rcases nil_or_length_pos (l.erase a) with h2 | h2
  · exact Or.inl h2
  · right; omega

namespace Auto
attribute [scoped grind →] InvR.f_refd InvR.ld_refd InvR.o_got
scoped grind_pattern InvR.cnt => InvR s, s.count
scoped grind_pattern InvR.freed_eq => InvR s, s.freed
scoped grind_pattern InvR.moved => InvR s, s.movedOut
scoped grind_pattern InvR.f_post => InvR s, FPc.walk l d .post
scoped grind_pattern InvR.moved_obs => InvR s, s.obs t
scoped grind_pattern nil_or_length_pos => l.length
attribute [scoped grind] isReadyOp opKind
attribute [scoped grind =] retCnt_cons retCnt_nil promRefs_start promRefs_walk promRefs_dec List.length_erase_of_mem
attribute [scoped grind →] List.mem_of_mem_erase
end Auto
open Auto

theorem invR_step {w s l s'} (h0 : Inv0 s) (ha : InvA w s) (hi : InvR s) (hs : Step s l s') : InvR s' := by
  cases hs with
  -- this `Retire()` and any other pending one keep the counter at 2 or more
  | rRetire c n h => have he := erase_nil_or_two_le h; inv_auto
  | oLoad t op rest k x h ht hk hr hx | oCasOk t c e h hw | oCasFail t c e x h hw hx | oCasSpur t c e x h hw hx =>
      simp only [doLoad, doCasOk, reload, failPath]
      split
      · inv_auto
      · split <;> inv_auto
  -- `t` and any other thread that owns a reference keep the counter at 2 or more
  | oIncRef t _ _ _ | oGot t _ _ | oCopy t _ _ _ _ | oDrop t _ _ _ _ => have htwo := fun t' => h0.two' t' t; inv_auto
  | _ => inv_auto

end Yaclib.Shared
