/- The accounting lemma for `callStep` / `runSteps` (mutual structural induction, same skeleton as the master lemma). -/
import YaclibModel.Proofs.PipelineAcct

namespace Yaclib.Pipeline
open Yaclib.Extracted

theorem cnt_submit (cfg : Cfg) (e : Exec) (ctx : Option Nat) (g : G) :
    match submit cfg e ctx g with
    | .callNow _ g' => cnt g' = cnt g
    | .dropNow _ g' => cnt g' = cnt g
    | .queued _ _ g' => cnt g' = cnt g := by
  cases e with
  | inl => simp [submit, cnt]
  | stp => simp [submit, cnt]
  | user k =>
    simp only [submit]
    by_cases hr : rejects cfg g.subs k = true
    · simp [hr, cnt, G.finishJob]
    · simp only [hr]
      by_cases hq : (cfg k).queue = true <;> simp [hq, cnt, G.finishJob]

theorem srcCores_eq (src : Src) : srcCores src = if (src == Src.unit) = true then 0 else 1 := by
  cases src <;> rfl

/-- an eager source after construction: the PromiseCore functor is destroyed unless the core is still queued -/
theorem startSrc_acct (cfg : Cfg) (src : Src) (ctx : Option Nat) (g : G) :
    match startSrc cfg src ctx g with
    | .go _ _ _ g' => cnt g' = ((cnt g).1, (cnt g).2.1, (cnt g).2.2.1, (cnt g).2.2.2 + srcFunctors src)
    | .wait w _ g' =>
      cnt g' = ((cnt g).1, (cnt g).2.1, (cnt g).2.2.1, (cnt g).2.2.2 + (srcFunctors src - funsWait w)) ∧
      funsWait w ≤ srcFunctors src ∧ coresWait w = 1 ∧ srcCores src = 1 ∧ wfWait w = true
    | .crash _ => True := by
  cases src with
  | ready r => simp [startSrc, srcFunctors]
  | contract p f => simp [startSrc, srcFunctors, funsWait, coresWait, srcCores, wfWait]
  | contractOn e p f => simp [startSrc, srcFunctors, funsWait, coresWait, srcCores, wfWait]
  | unit => simp [startSrc, srcFunctors]
  | promiseFn e p f =>
    have h := cnt_submit cfg e ctx g
    simp only [startSrc]
    cases hs : submit cfg e ctx g with
    | callNow c g' => rw [hs] at h; simp [h, srcFunctors, funsWait, coresWait, srcCores, wfWait]
    | dropNow c g' => rw [hs] at h; simp [h, srcFunctors]
    | queued jid k g' => rw [hs] at h; simp [h, srcFunctors, funsWait, coresWait, srcCores, wfWait]
  | sharedReady r => simp [startSrc, srcFunctors]
  | sharedContract p f => simp [startSrc, srcFunctors, funsWait, coresWait, srcCores, wfWait]
  | sharedKept e p f pre => cases h : g.isSet p pre <;> simp [startSrc, h, srcFunctors, funsWait, coresWait, srcCores, wfWait]

/-- `asyncFinish` for an eager inner pipeline: caller and functor of the outer step are released now -/
theorem asyncFinish_acct_eager (m : Mode) (hd : Bool) (own : Exec) (k : List Step) (ctx : Option Nat) (o : Out)
    (c f : Nat) (hk : wfSteps k = true)
    (h : AcctOut (c + (if hd then 1 else 2) + k.length) (f + 1 + k.length) [] o) :
    AcctOut c f k (asyncFinish (stepType m hd) own k false ctx o) := by
  cases o with
  | done r inh c' g =>
    simp only [AcctOut, Bal, List.length_nil, Nat.add_zero] at h
    simp only [asyncFinish, Bool.false_eq_true, ite_false, AcctOut, Bal, cnt_asyncDoneAcct, cnt_asyncRetAcct]
    cases hd <;> simp at h ⊢ <;> omega
  | parked t g =>
    simp only [AcctOut, Bal] at h
    obtain ⟨⟨h1, h2⟩, h3⟩ := h
    simp only [wfThread, Bool.and_eq_true] at h3
    simp only [asyncFinish, Bool.false_eq_true, ite_false, AcctOut, Bal, cnt_asyncRetAcct, coresT, funsT,
      coresFrames_append, funsFrames_append, coresFrames, funsFrames, wfThread, wfFrames_append, wfFrames]
    refine ⟨?_, by simp [h3.1.1, h3.1.2, h3.2, hk]⟩
    simp only [coresT, funsT] at h1 h2
    cases hd <;> simp at h1 h2 ⊢ <;> omega
  | crash g => simp [asyncFinish, AcctOut]

/-- `asyncFinish` for a lazy inner pipeline (entered through Here after the outer step released caller and functor) -/
theorem asyncFinish_acct_lazy (ty : Nat) (own : Exec) (k : List Step) (ctx : Option Nat) (o : Out)
    (c f : Nat) (hk : wfSteps k = true)
    (h : AcctOut (c + 1 + k.length) (f + k.length) [] o) :
    AcctOut c f k (asyncFinish ty own k true ctx o) := by
  cases o with
  | done r inh c' g =>
    simp only [AcctOut, Bal, List.length_nil, Nat.add_zero] at h
    simp only [asyncFinish, ite_true, AcctOut, Bal, cnt_asyncDoneAcct]
    omega
  | parked t g =>
    simp only [AcctOut, Bal] at h
    obtain ⟨⟨h1, h2⟩, h3⟩ := h
    simp only [wfThread, Bool.and_eq_true] at h3
    simp only [asyncFinish, ite_true, AcctOut, Bal, coresT, funsT,
      coresFrames_append, funsFrames_append, coresFrames, funsFrames, wfThread, wfFrames_append, wfFrames]
    refine ⟨?_, by simp [h3.1.1, h3.1.2, h3.2, hk]⟩
    simp only [coresT, funsT] at h1 h2
    omega
  | crash g => simp [asyncFinish, AcctOut]

end Yaclib.Pipeline
