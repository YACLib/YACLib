/- C11 invariant: the loop-exit tests of the registration loop and of the reset loop; preservation by the registration
   loop and by the start of a wait call -/
import YaclibModel.Proofs.WaitAuto

namespace Yaclib.Wait
open Auto
variable {w : Workload} {s : State}

theorem advReg_wpc (s : State) (c : WPc) (i : Nat) : advReg { s with wpc := c } i = advReg s i := by
  simp [advReg, toRet]

theorem advRst_wpc (s : State) (c : WPc) (i : Nat) : advRst { s with wpc := c } i = advRst s i := by
  simp [advRst, finalWait]

/-- the loop-exit test of the registration loop -/
theorem inv_advReg (hi : InvG false w s) (i : Nat) (hp : s.wpc = .reg i) : Inv w (advReg s i) := by
  have hal : s.alive = true := hi.alive_iff.mpr (by simp [hp, WPc.inCall])
  have hr := hi.reg_inv i (Or.inl hp)
  unfold advReg
  by_cases h1 : i < s.hi
  · simp only [h1, ↓reduceIte]
    inv_fields_pc hi hp
  · have hih : i = s.hi := by omega
    simp only [h1, ↓reduceIte]
    by_cases h0 : s.wc = 0
    · have hout := hi.all_out hal h0
      have hdead : ∀ j, (s.fut j).word ≠ .ev ∧ (s.fut j).ppc ≠ .took ∧ (s.fut j).ppc ≠ .setting ∧ (s.fut j).ppc ≠ .locked := by
        intro j
        have := hout j; have := hi.g_ev hal j; have := hi.g_took hal j; have := hi.g_set hal j
        grind
      have hres : ∀ j, s.lo ≤ j → j < s.hi → (s.fut j).word = .result := by
        intro j h1 h2
        exact hi.g_out hal j h1 (by simp only [regBound, hp]; omega) (hout j)
      simp only [h0, ↓reduceIte, toRet]
      by_cases hg : s.inGet = true
      · simp only [hg, ↓reduceIte]
        inv_fields_pc hi hp
      · simp only [hg]
        inv_fields_pc hi hp
    · simp only [h0, ↓reduceIte]
      by_cases hone : s.hi - s.lo = 1
      · simp only [hone, ↓reduceIte]
        inv_fields_pc hi hp
      · simp only [hone, ↓reduceIte]
        inv_fields_pc hi hp

/-- the loop-exit test of the reset loop -/
theorem inv_advRst (hi : InvG false w s) (i : Nat) (hp : s.wpc = .rst i) : Inv w (advRst s i) := by
  have hal : s.alive = true := hi.alive_iff.mpr (by simp [hp, WPc.inCall])
  have hr := hi.rst_inv i (Or.inl hp)
  have hres := hi.resetting (by simp [hp, WPc.resetting])
  have hpost := hi.post_inv (by simp [hp, WPc.postReg])
  unfold advRst
  by_cases h1 : i < s.hi
  · simp only [h1, ↓reduceIte]
    inv_fields_pc hi hp
  · have hih : i = s.hi := by omega
    have hNinn : Ninn s = 0 := by
      apply cntG_zero_of
      intro j hj
      by_cases hlo : s.lo ≤ j
      · exact hi.rst_lo hal j hlo (by simp only [rstBound, hp]; omega)
      · intro hg; have := hi.g_range hal j (by simp [hg]); omega
    have hNback := hi.c_rc hal
    have hwc := hi.c_wc hal
    simp only [h1, ↓reduceIte]
    by_cases hb : s.rc ≠ 0 ∧ s.rc = s.wc
    · have hNt : Ntaken s = 0 := by omega
      have hNd : Ndecd s = 0 := by omega
      have hnos : s.setter = none := by
        cases hs : s.setter with
        | none => rfl
        | some j => exact absurd (hi.set_g hal j hs) (hi.none_of_zero hal (by simp) hNd j)
      have hclean := hi.clean_of hal hNinn hNt hnos
      rw [if_pos hb]
      inv_fields_pc hi hp
    · rw [if_neg hb]
      by_cases hc : s.rc ≠ 0 ∧ s.hi - s.lo ≠ 1
      · rw [if_pos hc]
        inv_fields_pc hi hp
      · rw [if_neg hc]
        simp only [finalWait, hres.1, Bool.false_eq_true, ↓reduceIte]
        inv_fields_pc hi hp

/-- a registration attempt on future `i` that found the word not empty found the result -/
theorem reg_fail_ready (hi : Inv w s) (i : Nat) (hp : s.wpc = .reg i ∨ s.wpc = .regCas i)
    (hne : (s.fut i).word ≠ .empty) : (s.fut i).g = .out ∧ (s.fut i).word = .result := by
  have hal : s.alive = true := hi.alive_iff.mpr (by rcases hp with hp | hp <;> simp [hp, WPc.inCall])
  have hr := hi.reg_inv i hp
  have hg : (s.fut i).g = .out := by
    cases hg : (s.fut i).g with
    | out => rfl
    | _ =>
        have := hi.g_range hal i (by simp [hg])
        rcases hp with hp | hp <;> simp only [regBound, hp] at this <;> omega
  refine ⟨hg, ?_⟩
  rcases hi.out_word hal hr.1 hg with h | h
  · exact absurd h hne
  · exact h

/-- registration of future `i` failed: move on -/
theorem inv_regNext (hi : Inv w s) (i : Nat) (hp : s.wpc = .reg i ∨ s.wpc = .regCas i)
    (hne : (s.fut i).word ≠ .empty) : Inv w (advReg s (i + 1)) := by
  have hal : s.alive = true := hi.alive_iff.mpr (by rcases hp with hp | hp <;> simp [hp, WPc.inCall])
  have hr := hi.reg_inv i hp
  have hf := reg_fail_ready hi i hp hne
  rw [← advReg_wpc s (.reg (i + 1))]
  apply inv_advReg _ (i + 1) rfl
  rcases hp with hp | hp <;> inv_fields_pc_at hi hp i

theorem inv_toRegCas (hi : Inv w s) (i : Nat) (hp : s.wpc = .reg i ∨ s.wpc = .regCas i) :
    Inv w { s with wpc := .regCas i } := by
  have hr := hi.reg_inv i hp
  rcases hp with hp | hp
  · inv_fields_pc hi hp
  · inv_fields_pc hi hp

theorem inv_wRegCasOk (hi : Inv w s) (i : Nat) (hp : s.wpc = .regCas i) (hw : (s.fut i).word = .empty) :
    Inv w (doRegCasOk s i) := by
  have hal : s.alive = true := hi.alive_iff.mpr (by simp [hp, WPc.inCall])
  have hr := hi.reg_inv i (Or.inr hp)
  have hg : (s.fut i).g = .out := by
    cases hg : (s.fut i).g with
    | out => rfl
    | _ =>
        have := hi.g_range hal i (by simp [hg])
        grind
  have hlt : i < s.hi := by grind
  unfold doRegCasOk
  rw [← advReg_wpc _ (.reg (i + 1))]
  apply inv_advReg _ (i + 1) rfl
  have e := cnt4 (f := s.fut) (x := { s.fut i with word := .ev, prev := .ev, g := .inn }) hlt .out .inn hg rfl
  simp at e
  obtain ⟨e1, e2, e3, e4⟩ := e
  simp only [Ninn, Ntaken, Ndecd, Nback] at *
  constructor <;> (try simp only [Ninn, Ntaken, Ndecd, Nback, e2, e3, e4])
  inv_solve_pc_at hi hp i

/-- a wait call starts: the event is constructed (both for a call of the client and for the wait inside `Get`) -/
theorem inv_begin (hi : Inv w s) (lo hi' : Nat) (timed inGet : Bool) (hp : s.wpc = .idle)
    (hlh : lo ≤ hi') (hfi : s.fi ≤ lo) (hcalls : s.calls ≠ [] → inGet = false)
    (hget : inGet = true → s.calls = [] ∧ lo = s.fi ∧ hi' = s.fi + 1 ∧ timed = false ∧ s.w.fin s.fi = .get ∧ s.fi < s.w.n)
    (hhi : (∀ c, c ∈ w.calls → c.hi ≤ w.n) → hi' ≤ s.w.n) :
    Inv w (doBegin s lo hi' timed inGet) := by
  have hal : s.alive = false := by
    cases ha : s.alive with
    | false => rfl
    | true => have := hi.alive_iff.mp ha; simp [hp, WPc.inCall] at this
  have hdead := hi.dead hal
  unfold doBegin
  rw [← advReg_wpc _ (.reg lo)]
  apply inv_advReg _ lo rfl
  have c1 : ∀ m, cntG (fun j => { s.fut j with g := .out }) .inn m = 0 := fun m => cntG_clear (by simp)
  have c2 : ∀ m, cntG (fun j => { s.fut j with g := .out }) .taken m = 0 := fun m => cntG_clear (by simp)
  have c3 : ∀ m, cntG (fun j => { s.fut j with g := .out }) .decd m = 0 := fun m => cntG_clear (by simp)
  have c4 : ∀ m, cntG (fun j => { s.fut j with g := .out }) .back m = 0 := fun m => cntG_clear (by simp)
  constructor <;> (try simp only [Ninn, Ntaken, Ndecd, Nback, c1, c2, c3, c4])
  inv_solve_pc hi hp

end Yaclib.Wait
