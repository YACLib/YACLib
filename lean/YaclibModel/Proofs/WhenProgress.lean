/- Progress for the combinator model: in a state in which no step is enabled (and nothing crashed) every input's
   consumption has finished, the output has been set exactly once, every input was consumed and released exactly once. -/
import YaclibModel.Proofs.WhenVal

namespace Yaclib.When

variable {w : Workload} {s : State}

theorem hasWord_cases {st : Strat} (h : st.hasWord = true) : st.usesFlag = true ∨ st = .anyFF ∨ st = .anyLF := by
  cases st with
  | allVec b => cases b <;> simp_all [Strat.hasWord, Strat.usesFlag]
  | allTuple b => cases b <;> simp_all [Strat.hasWord, Strat.usesFlag]
  | join b => cases b <;> simp_all [Strat.hasWord, Strat.usesFlag]
  | anyNone => left; rfl
  | anyFF => right; left; rfl
  | anyLF => right; right; rfl

/-- a consumption that has been entered and has not finished can always take its next step -/
theorem active_enabled (hC : InvC w s) (hc : s.crashed = false) {i : Nat} (ha : active (s.pc i) = true) :
    ∃ l s', Step w s l s' := by
  cases hp : s.pc i with
  | unreg => rw [hp] at ha; cases ha
  | pending => rw [hp] at ha; cases ha
  | done => rw [hp] at ha; cases ha
  | retire => exact ⟨_, _, .retire s i hc hp⟩
  | load =>
      rcases hasWord_cases (hC.word i (Or.inl hp)).1 with h | h | h
      · exact ⟨_, _, .loadFlag s i false hc hp h (by simp)⟩
      · exact ⟨_, _, .load3 s i .empty hc hp h (by cases s.st3 <;> rfl)⟩
      · exact ⟨_, _, .loadLf s i false hc hp h (by simp)⟩
  | rmw =>
      rcases hasWord_cases (hC.word i (Or.inr hp)).1 with h | h | h
      · exact ⟨_, _, .xchgFlag s i hc hp h⟩
      · cases hv : ok (w.inp i) with
        | true => exact ⟨_, _, .xchg3 s i hc hp h hv⟩
        | false => exact ⟨_, _, .cas3 s i hc hp h hv⟩
      · cases hv : ok (w.inp i) with
        | true => exact ⟨_, _, .xchgLf s i hc hp h hv⟩
        | false => exact ⟨_, _, .fsubLf s i hc hp h hv⟩
  | setOut o => exact ⟨_, _, .setOut s i o hc hp⟩
  | dec store => exact ⟨_, _, .dec s i store hc hp⟩
  | dtorRel j => exact ⟨_, _, .dtorRel s i j hc hp⟩
  | dtorSet =>
      cases ho : dtorOut w s with
      | some o => exact ⟨_, _, .dtorSet s i o hc hp ho⟩
      | none => exact ⟨_, _, .dtorThrow s i hc hp ho⟩
  | boom => exact ⟨_, _, .crash s i hc (Or.inl hp)⟩
  | dboom => exact ⟨_, _, .crash s i hc (Or.inr hp)⟩

theorem done_of_quiescent (hC : InvC w s) (hc : s.crashed = false) (hq : ∀ l s', ¬ Step w s l s') :
    ∀ i, i < w.n → s.pc i = .done := by
  have hact : ∀ i, active (s.pc i) = false := by
    intro i
    cases ha : active (s.pc i) with
    | false => rfl
    | true => obtain ⟨l, s', hs⟩ := active_enabled hC hc ha; exact absurd hs (hq l s')
  have hreg : s.reg = w.n := by
    have hle := hC.reg_le
    by_cases h : s.reg < w.n
    · exfalso
      cases hb : s.busy with
      | none => exact hq _ _ (.regSet s s.reg true hc hb rfl h)
      | some b => have := hC.busy b hb; rw [hact b] at this; cases this
    · omega
  intro i hi
  have hne : s.pc i ≠ .unreg := fun h => by have := (hC.unreg i).mp h; omega
  have ha := hact i
  cases hp : s.pc i with
  | unreg => exact absurd hp hne
  | pending => exact absurd (Step.fire s i hc hp) (hq _ _)
  | done => rfl
  | _ => rw [hp] at ha; cases ha

/-- at the end: output set exactly once, every input consumed and released exactly once -/
theorem complete_of_all_done (hC : InvC w s) (hO : InvO w s) (hn : w.n ≠ 0) (hd : ∀ i, i < w.n → s.pc i = .done) :
    s.outSet.length = 1 ∧ ∀ i, i < w.n → s.consumed i = 1 ∧ s.released i = 1 := by
  have hcnt : s.count = 0 := by
    rw [hC.count]
    exact cnt_all_false (fun i hi => by rw [hd i hi]; rfl)
  have hdt := hC.cnt_dt hcnt hn
  cases hk : s.dt with
  | none => exact absurd hk hdt
  | some k =>
      have hk' : k < w.n := by
        have h1 := hC.dt_pc k hk
        exact hC.idx (by intro h; rw [h] at h1; cases h1)
      have hv := hO.dt_done_out k hk (hd k hk')
      have hne : s.outSet ≠ [] := fun h => by have := hO.pvalid.mpr h; rw [hv] at this; cases this
      have hlen := hO.len
      refine ⟨?_, ?_⟩
      · cases ho : s.outSet with
        | nil => exact absurd ho hne
        | cons a t => rw [ho] at hlen; simp at hlen ⊢; exact hlen
      · intro i hi
        refine ⟨by rw [hC.consumed i, hd i hi]; rfl, ?_⟩
        cases hm : w.strat.managed with
        | true => rw [hC.released_m hm i, hd i hi]; rfl
        | false =>
            have hv : w.strat.isAllVec = true := by
              cases hst : w.strat <;> simp_all [Strat.managed, Strat.isAllVec]
            have hrel := hC.dt_done_rel k hk (hd k hk') hv
            rw [hC.released_o hm i, hrel]; simp [hi]

/-- ghost counters never exceed one -/
theorem consumed_released_le_one (hC : InvC w s) (i : Nat) : s.consumed i ≤ 1 ∧ s.released i ≤ 1 := by
  refine ⟨by rw [hC.consumed i]; split <;> omega, ?_⟩
  cases hm : w.strat.managed with
  | true => rw [hC.released_m hm i]; split <;> omega
  | false => rw [hC.released_o hm i]; split <;> omega

/-- every step only ever appends to the history of the output promise -/
theorem outSet_mono {l : Label} {s' : State} (hs : Step w s l s') :
    s'.outSet = s.outSet ∨ ∃ x, s'.outSet = s.outSet ++ [x] := by
  cases hs with
  | regSet i okb hc hb hr hn => cases okb <;> simp [doRegSet]
  | fire i hc hp => simp [doFire]
  | retire i hc hp => simp [doRetire]
  | loadFlag i b hc hp hs hb => simp [doLoadFlag, setPc]
  | xchgFlag i hc hp hs => simp only [doXchgFlag]; split <;> simp
  | setOut i o hc hp => right; exact ⟨o, rfl⟩
  | load3 i x hc hp hs hx => simp only [doLoad3, setPc]; split <;> simp
  | xchg3 i hc hp hs hv => simp only [doXchg3]; split <;> simp
  | cas3 i hc hp hs hv => simp only [doCas3]; split <;> simp
  | loadLf i d hc hp hs hd => simp [doLoadLf, setPc]
  | xchgLf i hc hp hs hv => simp only [doXchgLf]; split <;> simp
  | fsubLf i hc hp hs hv => simp only [doFsubLf]; split <;> simp
  | dec i store hc hp =>
      simp only [doDec]
      split
      · split <;> simp [setPc, finish]
      · simp [finish]
  | dtorRel i j hc hp =>
      simp only [doDtorRel]
      split
      · split
        · split <;> simp [setPc]
        · split <;> simp [setPc, finish]
      · simp [setPc]
  | dtorSet i o hc hp ho => right; exact ⟨o, by simp [doDtorSet, finish]⟩
  | dtorThrow i hc hp ho => simp [setPc]
  | crash i hc hp => simp

end Yaclib.When
