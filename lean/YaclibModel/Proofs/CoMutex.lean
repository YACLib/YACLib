/- Inductive invariant of the C14 model (Model/CoMutex.lean). -/
import YaclibModel.Model.CoMutex

namespace Yaclib.CoMutex

@[simp] theorem upd_same {α : Type} (f : Cid → α) (c : Cid) (v : α) : upd f c v c = v := by simp [upd]
theorem upd_other {α : Type} (f : Cid → α) (c : Cid) (v : α) (x : Cid) (h : x ≠ c) : upd f c v x = f x := by
  simp [upd, h]

@[simp] theorem Word.list_notLocked : Word.notLocked.list = [] := rfl
@[simp] theorem Word.list_locked (l : List Cid) : (Word.locked l).list = l := rfl
@[simp] theorem Own.blocked_free : Own.free.blocked = none := rfl
@[simp] theorem Own.blocked_held (c : Cid) : (Own.held c).blocked = none := rfl
@[simp] theorem Own.blocked_rel (c : Cid) (p : RelPc) (k : RelK) (d : Bool) :
    (Own.rel c p k d).blocked = if d then none else some c := by cases d <;> rfl
@[simp] theorem Own.relPc_free : Own.free.relPc = none := rfl
@[simp] theorem Own.relPc_held (c : Cid) : (Own.held c).relPc = none := rfl
@[simp] theorem Own.relPc_rel (c : Cid) (p : RelPc) (k : RelK) (d : Bool) : (Own.rel c p k d).relPc = some p := rfl
@[simp] theorem Own.det_free : Own.free.det = false := rfl
@[simp] theorem Own.det_held (c : Cid) : (Own.held c).det = false := rfl
@[simp] theorem Own.det_rel (c : Cid) (p : RelPc) (k : RelK) (d : Bool) : (Own.rel c p k d).det = d := rfl

structure Inv (cfg : Cfg) (s : State) : Prop where
  hcfg : s.cfg = cfg
  /-- the token is free exactly when the word says "not locked" -/
  own_free : s.own = .free ↔ s.word = .notLocked
  recv_own : s.receiver ≠ [] → s.own ≠ .free
  /-- the coroutine about to enter / inside the critical section is the token holder -/
  holder : ∀ c, (s.pc c = .acq ∨ s.pc c = .cs) ↔ s.own = .held c
  blocked : ∀ c, s.pc c = .unlocking ↔ s.own.blocked = some c
  /-- the parked coroutines are exactly the members of the two lists, each in one place, once -/
  parked : ∀ c, s.word.list.count c + s.receiver.count c = if s.pc c = .parked then 1 else 0
  rel_recv : (s.own.relPc = some .cas ∨ s.own.relPc = some .xchg) → s.receiver = []
  /-- a failed release CAS / non-empty pre-check: the later exchange returns a non-empty stack -/
  rel_xchg : s.own.relPc = some .xchg → s.word.list ≠ []
  rel_took : s.own.relPc = some .took → s.receiver ≠ []
  rel_pre : s.own.relPc = some .pre → s.own.det = false
  busy_todo : ∀ c, s.pc c ≠ .idle → s.todo c ≠ []
  /-- conservation of waiters -/
  counts : ∀ c, s.arrivals.count c = s.granted.count c + s.word.list.count c + s.receiver.count c
  fifo : s.cfg.fifo = true → s.granted ++ s.receiver ++ s.word.list.reverse = s.arrivals
  /-- every finished round was one critical section or one reported try-lock failure -/
  rounds : ∀ c, s.enters c + s.fails c + (s.todo c).length =
    (cfg.prog c).length + (if s.pc c = .cs ∨ s.pc c = .unlocking then 1 else 0)

theorem inv_init (cfg : Cfg) : Inv cfg (init cfg) := by
  constructor <;> simp [init]

theorem Word.list_eq_nil {w : Word} (h : w.list = []) : w = .notLocked ∨ w = .locked [] := by
  cases w with
  | notLocked => exact Or.inl rfl
  | locked l => right; simp at h; rw [h]

theorem length_pos_of_ne_nil {α : Type} {l : List α} (h : l ≠ []) : 1 ≤ l.length := by
  cases l with
  | nil => exact absurd rfl h
  | cons a t => simp

/- `grind` finds the clauses of `hi : Inv cfg s` by itself: a clause about the whole state as soon as `hi` is there, a clause
    about a coroutine `c` when a term about `c` (`s.pc c`, `s.todo c`, a count of `c`) occurs. -/
namespace Auto
attribute [scoped grind →] Inv.hcfg Inv.own_free Inv.recv_own Inv.rel_recv Inv.rel_xchg Inv.rel_took Inv.rel_pre Inv.fifo
  Word.list_eq_nil
attribute [scoped grind! .] Inv.holder Inv.blocked Inv.busy_todo Inv.counts Inv.rounds
scoped grind_pattern Inv.parked => Inv cfg s, s.pc c
scoped grind_pattern length_pos_of_ne_nil => l.length
attribute [scoped grind =] Own.blocked_free Own.blocked_held Own.blocked_rel Own.relPc_free Own.relPc_held Own.relPc_rel
  Own.det_free Own.det_held Own.det_rel Word.list_notLocked Word.list_locked senderList List.reverse_eq_nil_iff
end Auto

/-- one clause of the invariant of the new state at a time, with the step's effect unfolded -/
macro "inv_auto" : tactic =>
  `(tactic| (constructor <;> simp only [doTlLoad, failAcq, doAcquire, doTryFail, doPush, doEnter, doExit, exitKind,
      doResubmit, finish, doRelease, doXchg, doGrant, upd, Bool.false_eq_true, ↓reduceIte] <;> grind -ring -linarith -ac -order))

end Yaclib.CoMutex
