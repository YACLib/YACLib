/- Accounting of resumption and the client-level accounting invariant. -/
import YaclibModel.Proofs.PipelineAcct3
import YaclibModel.Proofs.PipelineRun

namespace Yaclib.Pipeline
open Yaclib.Extracted

theorem unwind_acct (cfg : Cfg) : ∀ (fs : List Frame) (o : Out) (c f : Nat), wfFrames fs = true →
    AcctOut (c + coresFrames fs) (f + funsFrames fs) [] o → AcctOut c f [] (unwind cfg fs o)
  | [], o, c, f, _, h => by
    cases o <;> simpa [unwind, coresFrames, funsFrames] using h
  | f0 :: fs, .done r inh c' g, c, f, hw, h => by
    simp only [wfFrames, Bool.and_eq_true] at hw
    simp only [unwind]
    apply unwind_acct cfg fs _ c f hw.2
    apply runSteps_acct cfg f0.rest false true c' r f0.own _ _ _ hw.1 (by intro h; cases h)
    simp only [AcctOut, Bal, coresFrames, funsFrames, List.length_nil] at h
    simp only [Bal, cnt_asyncDoneAcct]
    simp at h ⊢
    omega
  | f0 :: fs, .parked t g, c, f, hw, h => by
    simp only [AcctOut, Bal] at h
    obtain ⟨⟨h1, h2⟩, h3⟩ := h
    simp only [wfThread, Bool.and_eq_true] at h3
    simp only [unwind, AcctOut, Bal, coresT, funsT, coresFrames_append, funsFrames_append, wfThread, wfFrames_append]
    refine ⟨?_, by simp [h3.1.1, h3.1.2, h3.2, hw]⟩
    simp only [coresT, funsT] at h1 h2
    omega
  | f0 :: fs, .crash g, c, f, _, _ => by simp [unwind, AcctOut]

theorem fire_acct (cfg : Cfg) (t : Thread) (ctx : Option Nat) (g : G) (c f : Nat)
    (hw : wfWait t.wait = true) (hr : wfSteps t.rest = true)
    (hb : Bal g (c + coresWait t.wait + t.rest.length) (f + funsWait t.wait + t.rest.length)) :
    AcctOut c f t.rest (fire cfg t ctx g) := by
  unfold fire
  cases hwt : t.wait with
  | promise p fl =>
    rw [hwt] at hb
    simpa [AcctOut, coresWait, funsWait] using hb
  | job jid k jk =>
    rw [hwt] at hb hw
    cases jk with
    | step s input hd =>
      simp only [wfWait] at hw
      simp only []
      apply callStep_acct cfg s t.rest hd false (some k) (some t.inh) input t.inh _ c f hw hr
      simp only [Bal, cnt_finishJob]
      simp only [Bal, coresWait, funsWait] at hb
      cases hd <;> simp at hb ⊢ <;> omega
    | readyHead r =>
      simp only [AcctOut, Bal, cnt_finishJob]
      simpa [Bal, coresWait, funsWait] using hb
    | promiseHead p fl =>
      simp only [AcctOut, Bal, cnt_freeFunctor, cnt_finishJob, coresT, funsT, coresWait, funsWait, coresFrames, funsFrames,
        wfThread, wfWait, wfFrames, hr]
      simp only [Bal, coresWait, funsWait] at hb
      refine ⟨?_, by simp⟩
      simp at hb ⊢
      omega

theorem resume_acct (cfg : Cfg) (t : Thread) (ctx : Option Nat) (g : G) (c f : Nat) (hw : wfThread t = true)
    (hb : Bal g (c + coresT t) (f + funsT t)) : AcctOut c f [] (resume cfg t ctx g) := by
  simp only [wfThread, Bool.and_eq_true] at hw
  obtain ⟨⟨h1, h2⟩, h3⟩ := hw
  have hf := fire_acct cfg t ctx g (c + coresFrames t.outer) (f + funsFrames t.outer) h1 h2
    (by simp only [Bal, coresT, funsT] at hb ⊢; omega)
  rw [resume_eq]
  exact unwind_acct cfg t.outer _ c f h3 ((acctClosed cfg).andThen_post (p := (_, _)) ⟨h2, hf⟩).2

/-! ### the client-level accounting invariant -/

/-- what the whole state owns: the handle the client holds (if any) keeps exactly the last core alive -/
def AInv (st : State) (p : Prog) (h : Handle) : Prop :=
  st.crashed = true ∨
  match st.ctl with
  | .idle => False
  | .task src steps =>
    h = .task ∧ p.steps = steps ∧ st.held = true ∧ ((src == Src.unit) = true → steps ≠ []) ∧
    Bal st.g (srcCores src + steps.length) (srcFunctors src + steps.length)
  | .future _ _ => h = .fut ∧ st.held = true ∧ Bal st.g 1 0
  | .pending t =>
    ((h = .fut ∧ st.held = true) ∨ (h = .none ∧ st.held = false)) ∧ Bal st.g (coresT t) (funsT t) ∧ wfThread t = true
  | .gone => h = .none ∧ Bal st.g 0 0

theorem ainv_settle (st0 : State) (o : Out) (p' : Prog) (h' : Handle)
    (hh : (h' = .fut ∧ st0.held = true) ∨ (h' = .none ∧ st0.held = false))
    (ho : AcctOut 0 0 [] o) : AInv (settle st0 o) p' h' := by
  cases o with
  | done r inh c g =>
    simp only [AcctOut, Bal, List.length_nil] at ho
    cases hh with
    | inl hh =>
      by_cases hc : st0.crashed = true
      · exact Or.inl (by simp [settle, hh.2, hc])
      · exact Or.inr (by simp [settle, hh.2, hh.1, Bal]; omega)
    | inr hh =>
      by_cases hc : st0.crashed = true
      · exact Or.inl (by simp [settle, hh.2, hc])
      · exact Or.inr (by simp [settle, hh.2, hh.1, Bal]; omega)
  | parked t g =>
    simp only [AcctOut] at ho
    by_cases hc : st0.crashed = true
    · exact Or.inl (by simp [settle, hc])
    · exact Or.inr (by simpa [settle, hh] using ho)
  | crash g => exact Or.inl (by simp [settle])

end Yaclib.Pipeline
