/- Values: what the slots hold, what the output promise was fulfilled with. -/
import YaclibModel.Proofs.WhenInv

namespace Yaclib.When

/-- what the strategy destructor publishes when nobody was elected -/
def dtorExpected (w : Workload) (errBy : Option Nat) : OutVal :=
  match w.strat with
  | .allVec _ => .vec ((List.range w.n).map fun j => some (w.inp j))
  | .allTuple _ => .vec ((List.range w.n).map fun j => some (w.inp j))
  | .join _ => .unit
  | .anyFF => match errBy with
      | some e => .one (w.inp e)
      | none => .broken
  | .anyNone => .broken
  | .anyLF => .broken

structure InvV (w : Workload) (s : State) : Prop where
  tuple_dec : ∀ ff, w.strat = .allTuple ff → ∀ j, s.pc j = .dec false → ok (w.inp j) = false ∧ ff = true
  tuple_set : ∀ ff, w.strat = .allTuple ff → ∀ j o, s.pc j = .setOut o → ok (w.inp j) = false ∧ ff = true
  /-- AllTuple: a consumption that has dropped its reference has written its slot (unless it was a failure under FirstFail) -/
  slot_t : ∀ ff, w.strat = .allTuple ff → ∀ j, holding (s.pc j) = false → (ok (w.inp j) = true ∨ ff = false) →
    s.slots j = some (w.inp j)
  /-- All: the destructor's loop has filled the slots below its index, in index order -/
  slot_v : ∀ ff, w.strat = .allVec ff → (ff = false ∨ s.pValid = true) → ∀ j, j < s.relIdx → s.slots j = some (w.inp j)
  out_win : ∀ o, o ∈ s.outSet → ∀ k, s.win = some k → o = .one (w.inp k)
  out_dtor : ∀ o, o ∈ s.outSet → s.win = none →
    o = dtorExpected w s.errBy ∧ w.strat ≠ .anyNone ∧ w.strat ≠ .anyLF ∧ (w.strat = .anyFF → s.errBy ≠ none)

theorem invv_init (w : Workload) : InvV w (init w) := by
  constructor <;> simp [init, holding]

theorem map_range_congr {α : Type} (f g : Nat → α) (n : Nat) (h : ∀ j, j < n → f j = g j) :
    (List.range n).map f = (List.range n).map g := by
  apply List.map_congr_left
  intro j hj
  exact h j (List.mem_range.mp hj)

variable {w : Workload} {s : State}

theorem noneKind_tuple (ff : Bool) : (Strat.allTuple ff).noneKind = !ff := by cases ff <;> rfl

theorem afterRetire_tuple (ff : Bool) (r : Res) :
    afterRetire (.allTuple ff) r = .dec true ∨ (afterRetire (.allTuple ff) r = .load ∧ ok r = false ∧ ff = true) := by
  cases ff <;> cases h : ok r <;> simp [afterRetire, h]

/-- what the destructor publishes is what is expected of it -/
theorem dtorOut_expected (hI : Inv w s) (hV : InvV w s) {i : Nat} {o : OutVal} (hp : s.pc i = .dtorSet)
    (ho : dtorOut w s = some o) :
    s.win = none ∧ o = dtorExpected w s.errBy ∧ w.strat ≠ .anyNone ∧ w.strat ≠ .anyLF ∧ (w.strat = .anyFF → s.errBy ≠ none) := by
  have hC := hI.c
  have hd : inDtor (s.pc i) = true := by rw [hp]; rfl
  have hv := hI.o.dtorset i hp
  have hw := win_none_in_dtor hC hI.r hI.o hd hv
  have hi' : i < w.n := hC.idx (by rw [hp]; simp)
  refine ⟨hw, ?_⟩
  cases hst : w.strat with
  | allVec ff =>
      simp only [dtorOut, hst, Option.some.injEq] at ho
      subst ho
      refine ⟨?_, by simp, by simp, by simp⟩
      simp only [dtorExpected, hst]
      congr 1
      apply map_range_congr
      intro j hj
      have hrel := hC.dtorSet_rel i hp (by rw [hst]; rfl)
      exact hV.slot_v ff hst (by cases ff <;> simp [hv]) j (by omega)
  | allTuple ff =>
      simp only [dtorOut, hst, Option.some.injEq] at ho
      subst ho
      refine ⟨?_, by simp, by simp, by simp⟩
      simp only [dtorExpected, hst]
      congr 1
      apply map_range_congr
      intro j hj
      have hnh : holding (s.pc j) = false := by
        by_cases hji : j = i
        · subst hji; rw [hp]; rfl
        · rw [hC.dtor i j hd hj hji]; rfl
      apply hV.slot_t ff hst j hnh
      cases ff with
      | false => exact Or.inr rfl
      | true =>
          have hF := hI.f (by rw [hst]; rfl)
          exact Or.inl (all_ok_in_dtor hC hI.r hI.o hF hd hv j hj)
  | join ff =>
      simp only [dtorOut, hst, Option.some.injEq] at ho
      subst ho
      simp [dtorExpected, hst]
  | anyNone =>
      exact absurd hp (no_dtorSet_anyNone hC hI.r hI.o (hI.f (by rw [hst]; rfl)) hst i)
  | anyLF =>
      exact absurd hp (no_dtorSet_anyLF hC hI.r hI.o (hI.l hst (by omega)) i)
  | anyFF =>
      obtain ⟨_, e, he, hsv⟩ := saved_in_dtor hC hI.r hI.o (hI.g hst) hp
      simp only [dtorOut, hst, hsv, Option.map_some, Option.some.injEq] at ho
      subst ho
      simp [dtorExpected, hst, he]

/- patterns for the clauses of `InvV`; the clauses of the other invariants that a step needs are named in its proof -/
namespace Auto
attribute [scoped grind! .] InvV.tuple_dec InvV.tuple_set InvV.slot_t InvV.slot_v InvV.out_win InvV.out_dtor
attribute [scoped grind =] noneKind_tuple
end Auto
open Auto

/-- a step that leaves input `i` holding its reference, at a pc allowed under AllTuple, and touches the election ghosts only
    while nothing is published (one hypothesis, as in `InvO.pc_step`) -/
theorem InvV.pc_step (hi : InvV w s) {i : Nat} {p : IPc} {win errBy}
    (h : holding p = true ∧
      (∀ ff, w.strat = .allTuple ff → p = .dec false ∨ isSetOut p = true → ok (w.inp i) = false ∧ ff = true) ∧
      (s.outSet = [] ∨ (win = s.win ∧ errBy = s.errBy)))
    (reg busy consumed released flag st3 lf rmwDone rmwOrder) :
    InvV w { s with pc := upd s.pc i p, win, errBy, reg, busy, consumed, released, flag, st3, lf, rmwDone, rmwOrder } := by
  inv_auto

theorem InvV.dec_step (hi : InvV w s) {i : Nat} {store : Bool} (hp : s.pc i = .dec store) :
    InvV w (doDec w s i store) := by
  have h1 := dtorStart_cases w.strat s.pValid
  unfold doDec; split
  · rcases h1 with h1 | h1 | h1 <;> simp only [h1.1] <;> inv_auto
  · inv_auto

theorem InvV.dtorRel_step (hI : Inv w s) (hi : InvV w s) {i j : Nat} (hp : s.pc i = .dtorRel j) :
    InvV w (doDtorRel w s i j) := by
  have hrel := hI.c.dtorRel i j hp
  have hok := ok_in_dtorRel hI hp
  unfold doDtorRel; split <;> (try split) <;> (try split) <;> inv_auto

theorem invv_step {w s l s'} (hI : Inv w s) (hW : WinFree w s) (hi : InvV w s) (hs : Step w s l s') : InvV w s' := by
  have hword := hI.c.word
  have hnil := @outSet_nil w s hI.c hI.o
  have htup := afterRetire_tuple
  cases hs with
  | regSet i okb hc hb hr hn =>
      have := consumeStart_facts w.strat (w.inp i)
      have := consumeStart_cases w.strat (w.inp i)
      cases okb <;> exact hi.pc_step (by grind) ..
  | fire i hc hp =>
      have := consumeStart_facts w.strat (w.inp i)
      have := consumeStart_cases w.strat (w.inp i)
      exact hi.pc_step (by grind) ..
  | retire i hc hp =>
      have := consumeStart_facts w.strat (w.inp i)
      exact hi.pc_step (by grind) ..
  | loadFlag i b hc hp hs hb => cases b <;> exact hi.pc_step (by grind) ..
  | xchgFlag i hc hp hs =>
      have := hW.f hs
      unfold doXchgFlag; split <;> exact hi.pc_step (by grind) ..
  | load3 i x hc hp hs hx =>
      unfold doLoad3; split <;> exact hi.pc_step (by grind) ..
  | xchg3 i hc hp hs hv =>
      have := hW.g hs
      unfold doXchg3; split <;> exact hi.pc_step (by grind) ..
  | cas3 i hc hp hs hv =>
      have := hW.g hs
      unfold doCas3; split <;> exact hi.pc_step (by grind) ..
  | loadLf i d hc hp hs hd => cases d <;> exact hi.pc_step (by grind) ..
  | xchgLf i hc hp hs hv =>
      have := hW.l hs i hp
      unfold doXchgLf; split <;> exact hi.pc_step (by grind) ..
  | fsubLf i hc hp hs hv =>
      have := hW.l hs i hp
      unfold doFsubLf; split <;> exact hi.pc_step (by grind) ..
  | setOut i o hc hp =>
      have := hI.c.setout i o hp
      have := hI.o.win_pc i o hp
      inv_auto
  | dec i store hc hp => exact hi.dec_step hp
  | dtorRel i j hc hp => exact hi.dtorRel_step hI hp
  | dtorSet i o hc hp ho =>
      have hx := dtorOut_expected hI hi hp ho
      inv_auto
  | dtorThrow i hc hp ho => inv_auto
  | crash i hc hp => inv_auto

theorem invv_reachable {w s} (hwf : w.wf) (h : Reachable w s) : InvV w s := by
  induction h with
  | init => exact invv_init w
  | step hr hs ih =>
      have hI := inv_reachable hwf hr
      have hW := winFree_of hI.c hI.r hI.f hI.g (fun hl => hI.l hl (fun h0 => no_step_of_empty hI.c h0 hs))
      exact invv_step hI hW ih hs

end Yaclib.When
