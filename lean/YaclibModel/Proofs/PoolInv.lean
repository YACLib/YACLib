/- C08: the invariants hold in every reachable state -/
import YaclibModel.Proofs.PoolF
namespace Yaclib.Pool
open Auto

theorem invB_init (w : Workload) : InvB w (init w) := by
  have hc : ∀ j, List.countP (WPc.isCalling j) (List.replicate w.workers WPc.start) = 0 := by
    intro j; apply List.countP_eq_zero.mpr; intro a ha; rw [List.eq_of_mem_replicate ha]; simp [WPc.isCalling]
  have hget : ∀ (i : Nat) (sb : Sub), (w.subs.map fun n => ({ pc := .idle, k := 0, total := n } : Sub))[i]? = some sb →
      w.subs[i]? = some sb.total ∧ sb.k = 0 ∧ sb.pc = .idle := by
    intro i sb h
    rw [List.getElem?_map] at h
    cases hn : w.subs[i]? with
    | none => rw [hn] at h; simp at h
    | some n => rw [hn] at h; simp at h; subst h; simp
  have hfl : ∀ j, inFlight (init w) j = 0 := by
    intro j
    simp only [inFlight, init]
    split
    · rename_i sb hsb
      have := (hget _ _ hsb).2.2
      simp [this]
    · rfl
  constructor
  · simp [init]
  · intro i sb h
    have := hget i sb h
    refine ⟨this.1, by omega, ?_⟩
    intro hne; exact absurd this.2.2 hne
  · simp [init]
  · simp [init]
  · intro j hj; simp [init] at hj
  · intro i sb h
    have := hget i sb h
    refine ⟨?_, ?_⟩
    · intro k hk; omega
    · intro hne; exact absurd this.2.2 hne
  · intro j; rw [hfl j]; simp [init]
  · intro j; simp only [init]; rw [hc j]; simp
  · intro _ _; simp [init]
  · intro l h; simp only [init] at h; cases hw : w.stop <;> simp [hw] at h
  · intro _; simp [init]

theorem invC_init (w : Workload) : InvC w (init w) := by
  constructor
  · intro h; simp [init, Bits.initCount_eq] at h
  · intro h; simp [init] at h

/-! Preservation.  The steps that end a critical section (label `unlock`) are the ones that change the protected record;
    they are proved apart from the others. -/

theorem invA_unlock {w s t s'} (hi : InvA w s) (hs : Step s (.unlock t) s') : InvA w s' := by
  cases hs with
  | sAccept i sb h hpc hw => pool_close
  | sReject i sb h hpc hw => pool_close
  | wPop i b j rest h hq => have hge := held_counted hi h; pool_close
  | wStop i b h hq hc => pool_close
  | wExit i b h hq hc hw => pool_close
  | wWait i b h hq hc hw => have hge := held_counted hi h; pool_close
  | xStop h hk => pool_close
  | xSoftNow h hk hn => pool_close
  | xSoftWant h hk hn => pool_close
  | xHard h hk => pool_close

theorem invA_step {w s l s'} (hi : InvA w s) (hs : Step s l s') : InvA w s' := by
  by_cases hl : ∃ t, l = .unlock t
  · obtain ⟨t, rfl⟩ := hl; exact invA_unlock hi hs
  cases hs with
  | sBegin i sb h hpc hk => pool_close
  | sLock i sb h hpc hl => pool_close
  | sDrop i sb h hpc => have hd := hi.dropping_was sb (List.mem_of_getElem? h) hpc; pool_close
  | sNotifyNone i sb h hpc hn => pool_close
  | sNotifyOne i sb v h hpc hv => pool_close
  | wLock i pc h hpc hl => rcases hpc with rfl | rfl <;> pool_close
  | wRelock i h hl => pool_close
  | wCall i j h => pool_close
  | wSpurious i h => pool_close
  | wNotifyAll i h =>
      have hr := countP_map_wake _ running_wake; have hh := countP_map_wake _ isHeld_wake
      pool_close
  | xBegin k h hk => pool_close
  | xLock h hl => pool_close
  | xNotifyAll h =>
      have hr := countP_map_wake _ running_wake; have hh := countP_map_wake _ isHeld_wake
      pool_close
  | xDrop j rest h => pool_close
  | waitRet h hr => pool_close
  | _ => exact (hl ⟨_, rfl⟩).elim

theorem invB_unlock {w s t s'} (ha : InvA w s) (hi : InvB w s) (hs : Step s (.unlock t) s') : InvB w s' := by
  -- of `InvA` only these two clauses are needed; with all of it in the context `grind` pays for it in every clause of `InvB`
  have hxp := ha.x_pre; have hsk := ha.stolen_kind; clear ha
  cases hs with
  | sAccept i sb h hpc hw =>
      -- the pool is not stopped, so HardStop has not taken the queue away
      have hst : s.stolen = [] := by grind
      pool_close
  | sReject i sb h hpc hw => pool_close
  | wPop i b j rest h hq => pool_close
  | wStop i b h hq hc => pool_close
  | wExit i b h hq hc hw => pool_close
  | wWait i b h hq hc hw => pool_close
  | xStop h hk => pool_close
  | xSoftNow h hk hn => pool_close
  | xSoftWant h hk hn =>
      have hst : s.stolen = [] := (hxp (.inr (.inr h))).2.1
      pool_close
  | xHard h hk =>
      have hst : s.stolen = [] := (hxp (.inr (.inr h))).2.1
      pool_close

theorem invB_step {w s l s'} (ha : InvA w s) (hi : InvB w s) (hs : Step s l s') : InvB w s' := by
  by_cases hl : ∃ t, l = .unlock t
  · obtain ⟨t, rfl⟩ := hl; exact invB_unlock ha hi hs
  have hsk := ha.stolen_kind; clear ha
  cases hs with
  | sBegin i sb h hpc hk => pool_close
  | sLock i sb h hpc hl => pool_close
  | sDrop i sb h hpc => pool_close
  | sNotifyNone i sb h hpc hn => pool_close
  | sNotifyOne i sb v h hpc hv => pool_close
  | wLock i pc h hpc hl => rcases hpc with rfl | rfl <;> pool_close
  | wRelock i h hl => pool_close
  | wCall i j h => pool_close
  | wSpurious i h => pool_close
  | wNotifyAll i h => have hc := fun j => countP_map_wake _ (isCalling_wake j); pool_close
  | xBegin k h hk => pool_close
  | xLock h hl => pool_close
  | xNotifyAll h => have hc := fun j => countP_map_wake _ (isCalling_wake j); pool_close
  | xDrop j rest h => pool_close
  | waitRet h hr => pool_close
  | _ => exact (hl ⟨_, rfl⟩).elim

theorem invC_step {w s l s'} (ha : InvA w s) (hi : InvC w s) (hs : Step s l s') : InvC w s' := by
  cases hs with
  | sBegin i sb h hpc hk => pool_close
  | sLock i sb h hpc hl => pool_close
  | sAccept i sb h hpc hw => pool_close
  | sReject i sb h hpc hw => pool_close
  | sDrop i sb h hpc => pool_close
  | sNotifyNone i sb h hpc hn =>
      have hap := fun hq hw => active_pos_of_no_parked ha hq hn hw
      pool_close
  | sNotifyOne i sb v h hpc hv => pool_close
  | wLock i pc h hpc hl => rcases hpc with rfl | rfl <;> pool_close
  | wRelock i h hl => pool_close
  | wCall i j h => pool_close
  | wSpurious i h => pool_close
  | wNotifyAll i h =>
      have hq : s.queue = [] := ha.gone_queue _ (List.mem_of_getElem? h) rfl
      have hnp := parked_not_mem_wake (s.workers.set i .exited)
      pool_close
  | wPop i b j rest h hq => pool_close
  | wStop i b h hq hc => have hself := mem_set_self' (b := WPc.stopping) h; pool_close
  | wExit i b h hq hc hw => pool_close
  | wWait i b h hq hc hw => pool_close
  | xBegin k h hk => pool_close
  | xLock h hl => pool_close
  | xStop h hk => pool_close
  | xSoftNow h hk hn => pool_close
  | xSoftWant h hk hn => pool_close
  | xHard h hk => pool_close
  | xNotifyAll h =>
      have hnp := parked_not_mem_wake s.workers
      have hap := fun hq hw => active_pos_after_wake ha hq hw
      pool_close
  | xDrop j rest h => pool_close
  | waitRet h hr => pool_close

theorem invA_reachable {w s} (h : Reachable w s) : InvA w s := by
  induction h with
  | init => exact invA_init w
  | step _ hs ih => exact invA_step ih hs

theorem invB_reachable {w s} (h : Reachable w s) : InvB w s := by
  induction h with
  | init => exact invB_init w
  | step hr hs ih => exact invB_step (invA_reachable hr) ih hs

theorem invC_reachable {w s} (h : Reachable w s) : InvC w s := by
  induction h with
  | init => exact invC_init w
  | step hr hs ih => exact invC_step (invA_reachable hr) ih hs

theorem invF_reachable {w s} (h : Reachable w s) : InvF s := by
  induction h with
  | init => exact invF_init w
  | step _ hs ih => exact invF_step ih hs

end Yaclib.Pool
