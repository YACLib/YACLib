/- The four invariants of the C06 model hold in every reachable state. -/
import YaclibModel.Proofs.SharedA
import YaclibModel.Proofs.SharedR
namespace Yaclib.Shared
open Auto in
theorem inv0_step {s l s'} (hi : Inv0 s) (hs : Step s l s') : Inv0 s' := by
  cases hs with
  | oLoad t op rest k x h ht hk hr hx | oCasOk t c e h hw | oCasFail t c e x h hw hx | oCasSpur t c e x h hw hx =>
      simp only [doLoad, doCasOk, reload, failPath]
      split
      · inv_auto
      · split <;> inv_auto
  | _ => inv_auto

structure Inv (w : Workload) (s : State) : Prop where
  a : InvA w s
  z : Inv0 s
  c : InvC s
  r : InvR s

theorem inv_init (w : Workload) : Inv w (init w) := ⟨invA_init w, inv0_init w, invC_init w, invR_init w⟩

theorem inv_step {w s l s'} (hi : Inv w s) (hs : Step s l s') : Inv w s' :=
  ⟨invA_step hi.a hs, inv0_step hi.z hs, invC_step hi.a hi.c hs, invR_step hi.z hi.a hi.r hs⟩

theorem inv_reachable {w s} (h : Reachable w s) : Inv w s := by
  induction h with
  | init => exact inv_init w
  | step _ hs ih => exact inv_step ih hs

end Yaclib.Shared
