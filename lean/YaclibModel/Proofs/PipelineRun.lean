/- The invariant along every list of client events, from the initial state. -/
import YaclibModel.Proofs.PipelineStep
import YaclibModel.Proofs.PipelineInd

namespace Yaclib.Pipeline
open Yaclib.Extracted

/-- the first well-formed source establishes the invariant -/
theorem inv_src (cfg : Cfg) (s : Src) (lazy : Bool) (head : Option Step)
    (hwf : ((s == Src.unit) != head.isSome) = false) :
    Inv cfg (mech cfg {} (.src s lazy head)) ⟨s, lazy, head.toList, none⟩ (if lazy then .task else .fut) := by
  have hunit : (s == Src.unit) = head.isSome := by
    cases h1 : (s == Src.unit) <;> cases h2 : head.isSome <;> simp_all
  have hne : (s == Src.unit) = true → head.toList ≠ [] := by
    intro h; rw [hunit] at h; cases head <;> simp_all
  simp only [mech, Bool.false_eq_true, ite_false, hwf]
  cases lazy with
  | true =>
    refine ⟨rfl, ?_⟩
    exact ⟨rfl, rfl, rfl, rfl, rfl, rfl, hne⟩
  | false =>
    simp only [Bool.false_eq_true, ite_false]
    have hsp := startSrc_spec cfg s none
      ((G.allocCore {} (srcCores s + head.toList.length)).allocFunctor (srcFunctors s + head.toList.length))
    refine inv_started cfg _ _ _ false _ _ _ rfl (Or.inl ⟨rfl, rfl, rfl⟩) ⟨by simp, hne⟩ ?_ ?_ ?_
    · intro r inh c g' hgo
      rw [hgo] at hsp
      obtain ⟨e1, e2⟩ := hsp
      simp only [allocFunctor_subs, allocCore_subs, allocFunctor_invoked, allocCore_invoked] at e1 e2
      have e1' : specSrc cfg s none false [] = (r, inh, g'.subs) := e1
      have e2' : g'.invoked = [] := e2
      simp only [spec, Bool.false_eq_true, ite_false, e1', e2']
      cases hu : (s == Src.unit) <;> simp [overrideHead]
    · intro w inh g' hw
      rw [hw] at hsp
      obtain ⟨a1, a2, a3, a5⟩ := hsp
      simp only [allocFunctor_subs, allocCore_subs, allocFunctor_invoked, allocCore_invoked] at a1 a2 a3
      have a2' : (specSrc cfg s none false []).2 = (inh, g'.subs) := a2
      have a3' : g'.invoked = [] := a3
      have a1' : ∀ inv, specFire cfg w inh g'.subs inv = ⟨(specSrc cfg s none false []).1, inh, g'.subs, inv⟩ := a1
      have b1 : (specSrc cfg s none false []).2.1 = inh := by rw [a2']
      have b2 : (specSrc cfg s none false []).2.2 = g'.subs := by rw [a2']
      simp only [spec, Bool.false_eq_true, ite_false, specThread, specFrames, a1', a5, a3', b1, b2]
      simp [overrideHead]
    · intro g' hg; rw [hg] at hsp; exact hsp

/-- **the invariant holds after every list of client events** -/
theorem inv_run (cfg : Cfg) : ∀ (evs : List Event),
    match client evs with
    | none => run cfg {} evs = {}
    | some (p, h) => Inv cfg (run cfg {} evs) p h :=
  run_client cfg (inv_step cfg) (inv_src cfg)

/-- **no reachable state is a crash** (with the extracted tables of the fixed tree; cf. defect D10) -/
theorem run_not_crashed (cfg : Cfg) (evs : List Event) : (run cfg {} evs).crashed = false := by
  have h := inv_run cfg evs
  cases hc : client evs with
  | none => rw [hc] at h; rw [h]
  | some ph => obtain ⟨p, hd⟩ := ph; rw [hc] at h; exact h.1

end Yaclib.Pipeline
