/- C16 over a real executor: the WaitGroup / OneShotEvent model composed with an executor given as an open transition system
   (`Yaclib.Strand.Exec`, Proofs/StrandTower.lean).

   In the plain model the release of a coroutine waiter is one event `rel t j` ("resumed inline, or through its executor").  Here the
   waiters `j` with `X j` are on-executor waiters (`co_await wg.AwaitOn(e)`, and `AwaitSticky` of a coroutine whose executor is `e`),
   and `e` is a real executor model `E` (job numbers of `E` = job numbers of the model):
     the model's `rel t j`   =  `sub j` of `E`: `ExtendedAwaiter::Call` = `_core->_executor->Submit(*_core)` — by the thread that runs
                                `SetImpl` (the waiter was in the list) or by the waiter itself (`TryAdd` failed: `OnAwaiter` calls `Call()`);
     `E`'s `call j`          =  the coroutine is resumed; `ret j` = that segment of the coroutine is over (what it does is not C16's);
     `E`'s `drop j`          =  the coroutine is completed with StopError instead of being resumed.
   `nrel j` (Props/C16 `released_once`) counts the hand-over to the executor, i.e. the Submit: a waiter that is later Dropped WAS
   released by the event exactly once; what the executor owes for it — exactly one of Call / Drop — is `ExecContract E`.
   All other waiters (blocking, timed, inline coroutines, raw jobs) keep the plain model's steps. -/
import YaclibModel.Proofs.EventProgress
import YaclibModel.Proofs.StrandTower

namespace Yaclib.Event
open Yaclib.Strand (Exec XEv Prot Phase specPre specPost protInit ExecContract)
attribute [local grind =] updJ_same updJ_other markRunning_mem markRunning_not_mem

structure XState (E : Exec) where
  m : State
  x : E.σ
  p : Prot

/-- steps of the plain model that are events at the executor -/
def synced (X : Nat → Bool) : Label → Bool
  | .rel _ j => X j
  | _ => false

inductive XLab where
  | plain (l : Label) | sub (t j : Nat) | call (j : Nat) | drop (j : Nat) | ret (j : Nat) | low

inductive XStep (E : Exec) (X : Nat → Bool) : XState E → XLab → XState E → Prop where
  | plain {s : XState E} {l m'} : Step s.m l m' → synced X l = false → XStep E X s (.plain l) { s with m := m' }
  | sub {s : XState E} {t j m' lx x'} : Step s.m (.rel t j) m' → X j = true → E.step s.x lx x' → E.ev lx = some (.sub j) →
      s.p j = .fresh → XStep E X s (.sub t j) { m := m', x := x', p := specPost s.p (.sub j) }
  | call {s : XState E} {j lx x'} : E.step s.x lx x' → E.ev lx = some (.call j) →
      XStep E X s (.call j) { s with x := x', p := specPost s.p (.call j) }
  | drop {s : XState E} {j lx x'} : E.step s.x lx x' → E.ev lx = some (.drop j) →
      XStep E X s (.drop j) { s with x := x', p := specPost s.p (.drop j) }
  | ret {s : XState E} {j lx x'} : E.step s.x lx x' → E.ev lx = some (.ret j) → s.p j = .calling →
      XStep E X s (.ret j) { s with x := x', p := specPost s.p (.ret j) }
  | low {s : XState E} {lx x'} : E.step s.x lx x' → E.ev lx = none → XStep E X s .low { s with x := x' }

def xinit (w : Workload) (E : Exec) : XState E := { m := init w, x := E.init, p := protInit }

inductive XReach (w : Workload) (E : Exec) (X : Nat → Bool) : XState E → Prop where
  | init : XReach w E X (xinit w E)
  | step {s l s'} : XReach w E X s → XStep E X s l s' → XReach w E X s'

/-- **projection** (no assumption on `E`): the event component is a reachable state of the plain model — every theorem of Props/C16
    about `Reachable` applies — and the executor component is reached with a protocol-honouring client: every waiter is submitted
    at most once and only an entered body returns -/
theorem xevent_projects {w : Workload} {E : Exec} {X : Nat → Bool} {s : XState E} (h : XReach w E X s) :
    Reachable w s.m ∧ E.Run s.x s.p := by
  induction h with
  | init => exact ⟨.init, .init⟩
  | step _ hs ih =>
      obtain ⟨hr, hl⟩ := ih
      cases hs with
      | plain hst _ => exact ⟨.step hr hst, hl⟩
      | sub hst _ hx hev hf => exact ⟨.step hr hst, .inp hl hx hev rfl hf⟩
      | call hx hev => exact ⟨hr, .out hl hx hev rfl⟩
      | drop hx hev => exact ⟨hr, .out hl hx hev rfl⟩
      | ret hx hev hc => exact ⟨hr, .inp hl hx hev rfl hc⟩
      | low hx hev => exact ⟨hr, .tau hl hx hev⟩

/-! ### what the executor holds was released by the event -/

/-- `zeroed` and the release counts only grow -/
theorem step_mono {s s' : State} {l : Label} (hout : ∀ j, s.njobs ≤ j → s.job j = {}) (hs : Step s l s') (j : Nat) :
    (s.zeroed = true → s'.zeroed = true) ∧ (s.job j).nrel ≤ (s'.job j).nrel := by
  have h0 := hout s.njobs (Nat.le_refl _)
  cases hs
  all_goals (ev_unfold; repeat' split)
  all_goals (constructor <;> grind)

/-- a `rel` step finds the waiter not released yet, after zero, and releases it -/
theorem rel_step_fresh {w : Workload} {s s' : State} {t j : Nat} (hok : w.ok) (h : Reachable w s) (hs : Step s (.rel t j) s') :
    (s.job j).nrel = 0 ∧ (s'.job j).nrel = 1 ∧ s.zeroed = true := by
  have hi := invJ_reachable hok h
  have hz := invZ_reachable h
  have h1 := (invJ_reachable hok (.step h hs)).r_nrel j
  cases hs with
  | tRunRel _ _ rest hp hk =>
      have hl := (hi.l_run t _ _ hp).2.2 j (by simp)
      have hn : (s.job j).nrel ≠ 1 := fun hn => by
        rcases (hi.r_coro j hk).mp hn with h | h <;> simp [hl] at h
      have := hi.r_nrel j
      refine ⟨by omega, ?_, hz.z_pc t (by simp [hp, Pc.setter])⟩
      simp only [doRunRel, runNext] at h1 ⊢
      split <;> simp_all [finish, goto, setT, updJ_same] <;> omega
  | tResume _ _ hp =>
      have hr := hi.j_res t j hp
      have ho := (hi.j_own t j (by simp [hp, Pc.owner])).2.2
      have hn : (s.job j).nrel ≠ 1 := fun hn => by
        rcases (hi.r_coro j hr.2).mp hn with h | h
        · simp [hr.1] at h
        · rw [ho] at h; cases h.2
      have := hi.r_nrel j
      refine ⟨by omega, ?_, hz.z_rel t (by simp [hp, Pc.releasing])⟩
      simp [doResume, finish, setT, updJ_same]; omega

/-- with an executor that honours its contract: whatever it holds or has held was released by the event, once, after zero -/
structure InvXE {E : Exec} (s : XState E) : Prop where
  held : ∀ j, s.p j ≠ .fresh → (s.m.job j).nrel = 1 ∧ s.m.zeroed = true

theorem invXE_reach {w : Workload} {E : Exec} {X : Nat → Bool} (hok : w.ok) (hc : ExecContract E) {s : XState E}
    (h : XReach w E X s) : InvXE s := by
  induction h with
  | init => exact ⟨fun j hj => absurd rfl hj⟩
  | @step s0 l0 s1 hr hs ih =>
      have hp := xevent_projects hr
      constructor
      intro j hj
      cases hs with
      | plain hst _ =>
          have hm := step_mono (invJ_reachable hok hp.1).j_out hst j
          have h1 := (invJ_reachable hok (.step hp.1 hst)).r_nrel j
          have := ih.held j hj
          refine ⟨?_, hm.1 this.2⟩
          dsimp only at h1 hm ⊢; omega
      | @sub t j' _ _ _ hst _ hx hev hf =>
          have hf' := rel_step_fresh hok hp.1 hst
          by_cases hjj : j = j'
          · subst hjj
            exact ⟨hf'.2.1, (step_mono (invJ_reachable hok hp.1).j_out hst j).1 hf'.2.2⟩
          · have hj' : s0.p j ≠ .fresh := by simpa [specPost, Strand.upd, hjj] using hj
            have hm := step_mono (invJ_reachable hok hp.1).j_out hst j
            have h1 := (invJ_reachable hok (.step hp.1 hst)).r_nrel j
            have := ih.held j hj'
            refine ⟨?_, hm.1 this.2⟩
            dsimp only at h1 hm ⊢; omega
      | @call j' _ _ hx hev =>
          have hpre := hc.safe hp.2 hx hev rfl
          by_cases hjj : j = j'
          · subst hjj; exact ih.held j (by rw [show s0.p j = .pending from hpre]; simp)
          · exact ih.held j (by simpa [specPost, Strand.upd, hjj] using hj)
      | @drop j' _ _ hx hev =>
          have hpre := hc.safe hp.2 hx hev rfl
          by_cases hjj : j = j'
          · subst hjj; exact ih.held j (by rw [show s0.p j = .pending from hpre]; simp)
          · exact ih.held j (by simpa [specPost, Strand.upd, hjj] using hj)
      | @ret j' _ _ hx hev hcal =>
          by_cases hjj : j = j'
          · subst hjj; exact ih.held j (by rw [hcal]; simp)
          · exact ih.held j (by simpa [specPost, Strand.upd, hjj] using hj)
      | low hx hev => exact ih.held j hj

end Yaclib.Event
