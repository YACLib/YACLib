/- Invariant and progress of the C18 model `Rm` (RecursiveMutex / RecursiveTimedMutex). -/
import YaclibModel.Model.FiberSyncRec
import YaclibModel.Proofs.FiberSync

namespace Yaclib.FiberSync.Rm
open Yaclib.FiberSync

theorem erase_nil_of_length {l : List Fid} {f : Fid} (h : f ∈ l) (h1 : l.length - 1 = 0) : l.erase f = [] := by
  have := Mx.length_erase_mem h
  have : (l.erase f).length = 0 := by omega
  exact List.length_eq_zero_iff.mp this

structure Inv (k : Bool) (s : State) : Prop where
  hk : s.timed = k
  cnt : s.count = s.holders.length
  own : ∀ a, a ∈ s.holders → s.owner = some a
  /-- notified fibers re-evaluate the condition next -/
  transit_pc : ∀ g, g ∈ s.transit → (s.pc g).rechecks = true
  /-- no lost wake-up: a free mutex with parked lockers has a notified locker on its way -/
  free_transit : s.count = 0 → s.rq ≠ [] → s.transit ≠ []
  rq_pc : ∀ g, g ∈ s.rq → (s.pc g).inQ = true
  pc_rq : ∀ g, (s.pc g).inQ = true → g ∈ s.rq
  dl : ∀ g r d, s.pc g = .tParked r d → r ≤ d
  t_timed : ∀ g r d, s.pc g = .tParked r d → s.timed = true
  tl_timed : ∀ g r, s.pc g = .tLocking r → s.timed = true

theorem inv_init (k : Bool) (n : Nat) : Inv k (init k n) := by
  constructor <;> (simp only [init]) <;> grind [Pc.inQ, Pc.rechecks]

theorem wake_not_inQ {p : Pc} (h : p.inQ = true) : (wake p).inQ = false := by
  cases p <;> simp_all [Pc.inQ, wake]
/-- a fiber taken off the queue by `NotifyOne` re-evaluates the loop condition of the call that parked it -/
theorem wake_cases {p : Pc} (h : p.inQ = true) :
    (p = .parked ∧ wake p = .locking) ∨ ∃ r d, p = .tParked r d ∧ wake p = .tLocking r := by
  cases p <;> simp_all [Pc.inQ, wake]

/- Inside `Auto`, `grind` reads `hi : Inv k s` as a source of facts: a clause is instantiated when the term it speaks
   of occurs. -/
namespace Auto
attribute [scoped grind →] Inv.hk Inv.cnt Inv.own Inv.transit_pc Inv.free_transit Inv.rq_pc Inv.pc_rq Inv.dl Inv.t_timed
  Inv.tl_timed List.mem_of_mem_erase
attribute [scoped grind] Pc.inQ Pc.rechecks PickOk Free PatchPick
attribute [scoped grind =] upd_apply mem_rm Mx.rm_nil List.append_eq_nil_iff erase_nil_of_length Mx.length_erase_mem
scoped grind_pattern wake_cases => wake p
end Auto
open Auto

/-- closes `Inv k s'` for the state `s'` after one step: the effect is unfolded in the goal, each clause goes to `grind` -/
macro "rm_auto" : tactic =>
  `(tactic| (constructor <;> (try simp only [lockHelper, doUnlock, notifyR, doPark, doTlfPark, doTlfTimeout, doTlfRepark])
      <;> grind -ring -linarith -ac -order))

theorem inv_step {k s l s'} (hi : Inv k s) (hs : Step s l s') : Inv k s' := by
  cases hs with
  | lockFast f h hf => rm_auto
  | lockPark f h hf => rm_auto
  | lockRecheckAcq f h hf => rm_auto
  | lockRepark f h hf => rm_auto
  | tryOk f h hf => rm_auto
  | tryFail f h hf => rm_auto
  | unlock f w h hh hw => cases w <;> rm_auto
  | tlfFast f hk h hf => rm_auto
  | tlfPark f t d j hk h hf ht => rm_auto
  | tlfRecheckAcq f req hk h hf => rm_auto
  | tlfRepark f req j hk h hf => rm_auto
  | tlfTimeout f t req dl hk h hd ht => rm_auto
  | sleepStart f t d h ht => rm_auto
  | sleepWake f t dl h hd ht => rm_auto
  | finish f h => rm_auto

theorem inv_reachable {k n s} (h : Reachable k n s) : Inv k s := by
  induction h with
  | init => exact inv_init k n
  | step _ hs ih => exact inv_step ih hs

/-- in a quiescent state every fiber has finished or is parked by `lock()` … -/
theorem quiescent_classify {k s} (hi : Inv k s) (hq : Quiescent s) (f : Fid) : s.pc f = .done ∨ s.pc f = .parked := by
  cases hp : s.pc f with
  | idle => exact absurd (Step.finish s f hp) (hq _ _)
  | done => exact Or.inl rfl
  | parked => exact Or.inr rfl
  | tParked r d =>
      exact absurd (Step.tlfTimeout s f (max s.now d) r d (hi.t_timed f r d hp) hp (Nat.le_max_right _ _)
        (Nat.le_max_left _ _)) (hq _ _)
  | locking =>
      by_cases hf : Free s f
      · exact absurd (Step.lockRecheckAcq s f hp hf) (hq _ _)
      · exact absurd (Step.lockRepark s f hp hf) (hq _ _)
  | tLocking r =>
      by_cases hf : Free s f
      · exact absurd (Step.tlfRecheckAcq s f r (hi.tl_timed f r hp) hp hf) (hq _ _)
      · exact absurd (Step.tlfRepark s f r 0 (hi.tl_timed f r hp) hp hf) (hq _ _)
  | sleeping d =>
      exact absurd (Step.sleepWake s f (max s.now d) d hp (Nat.le_max_right _ _) (Nat.le_max_left _ _)) (hq _ _)

/-- … on a mutex that really is held -/
theorem quiescent_parked_held {k s} (hi : Inv k s) (hq : Quiescent s) (f : Fid) (hp : s.pc f = .parked) :
    s.count ≠ 0 ∧ s.holders ≠ [] := by
  have hrq : s.rq ≠ [] := by
    intro h0
    have := hi.pc_rq f (by rw [hp]; rfl)
    rw [h0] at this; cases this
  have hc : s.count ≠ 0 := by
    intro hc
    have ht := hi.free_transit hc hrq
    cases htr : s.transit with
    | nil => exact ht htr
    | cons g rest =>
        have hw := hi.transit_pc g (by rw [htr]; simp)
        have hfree : Free s g := Or.inl hc
        cases hg : s.pc g with
        | locking => exact (hq _ _) (Step.lockRecheckAcq s g hg hfree)
        | tLocking r => exact (hq _ _) (Step.tlfRecheckAcq s g r (hi.tl_timed g r hg) hg hfree)
        | _ => rw [hg] at hw; simp [Pc.rechecks] at hw
  refine ⟨hc, ?_⟩
  intro h0
  have := hi.cnt
  rw [h0] at this
  exact hc (by simpa using this)

end Yaclib.FiberSync.Rm
