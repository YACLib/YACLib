/- C14: the invariant is preserved by every step. -/
import YaclibModel.Proofs.CoMutex
namespace Yaclib.CoMutex
open Auto

theorem inv_step {cfg s l s'} (hi : Inv cfg s) (hs : Step s l s') : Inv cfg s' := by
  cases hs with
  | tlLoad c sawFree h ht => cases sawFree <;> inv_auto
  | tlCasOk c h hw => inv_auto
  | tlCasFail c h hw => inv_auto
  | tryFail c h => inv_auto
  | alLoad c e h => inv_auto
  | alCasLock c h hw => inv_auto
  | alCasPush c hd l h hw hh => inv_auto
  | alCasFail c e h => inv_auto
  | enter c h => inv_auto
  | exit c h => inv_auto
  | resubmit c k h =>
      -- the releaser itself is at `unlocking`
      have hc := hi.blocked c
      inv_auto
  | ulLoad c k d sawEmpty h hr hsl => cases sawEmpty <;> inv_auto
  | ulCasOk c k d h hw => cases d <;> inv_auto
  | ulCasFail c k d h hw => inv_auto
  | ulXchg c k d l h hw hl => cases hf : s.cfg.fifo <;> inv_auto
  | grant c p k d n rest h hp hr =>
      -- the new holder `n` was parked (in `_receiver`, once); the releaser, unless detached, is at `unlocking`
      have hn := hi.parked n
      have hb := hi.busy_todo n
      have hc := hi.blocked c
      cases d <;> inv_auto

theorem inv_reachable {cfg s} (h : Reachable cfg s) : Inv cfg s := by
  induction h with
  | init => exact inv_init cfg
  | step _ hs ih => exact inv_step ih hs

end Yaclib.CoMutex
