/- C11 invariant: preservation by the reset loop and the second `SubEqual` -/
import YaclibModel.Proofs.WaitR

namespace Yaclib.Wait
open Auto
variable {w : Workload} {s : State}

/-- `Reset` of future `i` did not win the word back (it holds the result, or the CAS failed): move on -/
theorem inv_rstNext (hi : Inv w s) (i : Nat) (hp : s.wpc = .rst i ∨ ∃ x, s.wpc = .rstCas i x)
    (hni : (s.fut i).g ≠ .inn) : Inv w (advRst s (i + 1)) := by
  have hr := hi.rst_inv i hp
  have hb := hi.rst_hi i hp
  rw [← advRst_wpc s (.rst (i + 1))]
  apply inv_advRst _ (i + 1) rfl
  rcases hp with hp | ⟨x, hp⟩ <;> inv_fields_pc_at hi hp i

theorem inv_toRstCas (hi : Inv w s) (i : Nat) (x : Word) (hp : s.wpc = .rst i) (hx : loadOk (s.fut i) x)
    (hne : x ≠ .result) : Inv w { s with wpc := .rstCas i x } := by
  have hal : s.alive = true := hi.alive_iff.mpr (by simp [hp, WPc.inCall])
  have hev : (s.fut i).g = .inn → x = .ev := by
    intro hg
    have hw := hi.g_inn hal i hg
    rcases hx with h | h
    · rw [h, hw]
    · rw [hw] at h; cases h.1
  inv_fields_pc hi hp

/-- a successful `Reset` CAS can only have hit a word that still held the event pointer -/
theorem rst_ok_inn (hi : Inv w s) (i : Nat) (x : Word) (hp : s.wpc = .rstCas i x) (hw : (s.fut i).word = x) :
    (s.fut i).g = .inn := by
  have hal : s.alive = true := hi.alive_iff.mpr (by simp [hp, WPc.inCall])
  have hx := hi.rstcas_x i x hp
  have hr := hi.rst_inv i (Or.inr ⟨x, hp⟩)
  have hlt : i < s.hi := by have := hr.2; simp at this; exact this
  have hs := hi.start_iff i
  have hnr : (s.fut i).word ≠ .result := by rw [hw]; exact hx
  have hst := hs.mpr hnr
  cases hg : (s.fut i).g with
  | inn => rfl
  | out =>
      have := hi.g_out hal i hr.1 (by simp only [regBound, hp]; exact hlt) hg
      exact absurd this hnr
  | taken => have := hi.g_taken hal i hg; rw [hst] at this; cases this
  | decd => have := hi.g_decd hal i hg; rw [hst] at this; simp at this
  | back => exact absurd hg (hi.rst_hi i (Or.inr ⟨x, hp⟩) i (Nat.le_refl _))

theorem inv_wRstCasOk (hi : Inv w s) (i : Nat) (x : Word) (hp : s.wpc = .rstCas i x) (hw : (s.fut i).word = x) :
    Inv w (doRstCasOk s i) := by
  have hal : s.alive = true := hi.alive_iff.mpr (by simp [hp, WPc.inCall])
  have hg := rst_ok_inn hi i x hp hw
  have hr := hi.rst_inv i (Or.inr ⟨x, hp⟩)
  have hb := hi.rst_hi i (Or.inr ⟨x, hp⟩)
  have hlt : i < s.hi := by have := hr.2; simp at this; exact this
  have hres := hi.resetting (by simp [hp, WPc.resetting])
  unfold doRstCasOk
  rw [← advRst_wpc _ (.rst (i + 1))]
  apply inv_advRst _ (i + 1) rfl
  have e := cnt4 (f := s.fut) (x := { s.fut i with word := .empty, prev := .empty, g := .back }) hlt .inn .back hg rfl
  simp at e
  obtain ⟨e1, e2, e3, e4⟩ := e
  have hpos : 1 ≤ cntG s.fut .inn s.hi := cntG_pos hlt hg
  constructor <;> (try simp only [Ninn, Ntaken, Ndecd, Nback, e2, e3])
  inv_solve_pc_at hi hp i

theorem inv_wSub2 (hi : Inv w s) (hp : s.wpc = .sub2) : Inv w (doSub2 s) := by
  have hal : s.alive = true := hi.alive_iff.mpr (by simp [hp, WPc.inCall])
  have h2 := hi.sub2_inv hp
  have hone := h2.1
  have hres := hi.resetting (by simp [hp, WPc.resetting])
  have hs1 : s.sub1done = true := by
    rcases hi.later_inv (by simp [hp, WPc.postReg]) (by simp [hp]) with h | h
    · exact absurd h hone
    · exact h
  have hcnt := hi.c_cnt hal hone
  have hwc := hi.c_wc hal
  have hrc := hi.c_rc hal
  have hle := hi.wc_le hal
  have hNinn : Ninn s = 0 := by
    apply cntG_zero_of
    intro j hj
    by_cases hlo : s.lo ≤ j
    · exact hi.rst_lo hal j hlo (by simp only [rstBound, hp]; omega)
    · intro hg; have := hi.g_range hal j (by simp [hg]); omega
  simp only [hs1, hres.2.2, Bool.false_eq_true, ↓reduceIte, Ninn, Ntaken, Ndecd, Nback] at hcnt hwc hrc hNinn
  unfold doSub2
  by_cases hz : s.counter = (s.rc : Int)
  · have h2t : Ntaken s = 0 := by simp only [Ntaken]; omega
    have hnos : s.setter = none := by
      cases hs : s.setter with
      | none => rfl
      | some j => have := hi.set_cnt hal hone (by simp [hs]); omega
    have hclean := hi.clean_of hal hNinn h2t hnos
    have hto := hi.timed_only (by simp [hp, WPc.timedOnly])
    simp only [hz, ↓reduceIte]
    inv_fields_pc hi hp
  · simp only [hz, ↓reduceIte, finalWait, hres.1, Bool.false_eq_true]
    inv_fields_pc hi hp

end Yaclib.Wait
