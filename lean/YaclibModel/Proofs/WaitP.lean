/- C11 invariant: preservation by the producers' steps -/
import YaclibModel.Proofs.WaitAuto

namespace Yaclib.Wait
open Auto
variable {w : Workload} {s : State}

theorem inv_pSub (hi : Inv w s) (i : Nat) (h : (s.fut i).ppc = .took) : Inv w (doPSub s i) := by
  have hal := hi.alive_of_took h
  have hg := hi.g_took hal i h
  have hlt := hi.lt_hi hal (i := i) (by simp [hg])
  have hone : s.hi - s.lo ≠ 1 := fun ho => hi.one_taken hal ho i hg
  have hwc := hi.wc_le hal
  have hpos : 1 ≤ Ntaken s := cntG_pos hlt hg
  unfold doPSub
  by_cases hc1 : s.counter = 1
  · have e := cnt4 (f := s.fut) (x := { s.fut i with ppc := .setting, g := .decd }) hlt .taken .decd hg rfl
    simp at e
    obtain ⟨e1, e2, e3, e4⟩ := e
    simp only [Ninn, Ntaken, Ndecd, Nback] at *
    constructor <;> (try simp only [hc1, ↓reduceIte, Ninn, Ntaken, Ndecd, Nback, e1, e4])
    inv_solve_at hi i
  · have e := cnt4 (f := s.fut) (x := { s.fut i with ppc := .done, g := .decd }) hlt .taken .decd hg rfl
    simp at e
    obtain ⟨e1, e2, e3, e4⟩ := e
    simp only [Ninn, Ntaken, Ndecd, Nback] at *
    constructor <;> (try simp only [hc1, ↓reduceIte, Ninn, Ntaken, Ndecd, Nback, e1, e4])
    inv_solve_at hi i

theorem inv_pXchg (hi : Inv w s) (i : Nat) (h : (s.fut i).ppc = .start) (hw : (s.fut i).word ≠ .result) :
    Inv w (doXchg s i) := by
  unfold doXchg
  cases hwd : (s.fut i).word with
  | result => exact absurd hwd hw
  | empty =>
      have hc : ∀ a m, cntG (upd s.fut i { s.fut i with word := .result, ppc := .done }) a m = cntG s.fut a m :=
        fun a m => cntG_upd_g rfl
      constructor <;> (try simp only [Ninn, Ntaken, Ndecd, Nback, hc])
      inv_solve_at hi i
  | cont =>
      have hc : ∀ a m, cntG (upd s.fut i { s.fut i with word := .result, ppc := .fire }) a m = cntG s.fut a m :=
        fun a m => cntG_upd_g rfl
      have hfi : i < s.fi := by
        by_cases hlt : i < s.fi
        · exact hlt
        · exact absurd hwd (hi.todo i (by omega)).2.1
      constructor <;> (try simp only [Ninn, Ntaken, Ndecd, Nback, hc])
      inv_solve_at hi i
  | ev =>
      have hal := hi.alive_of_ev hwd
      have hg := hi.g_ev hal i hwd
      have hlt := hi.lt_hi hal (i := i) (by simp [hg])
      have hwc := hi.wc_le hal
      have hpos : 1 ≤ Ninn s := cntG_pos hlt hg
      have hfi : s.fi ≤ i := by
        have := hi.fi_lo hal; have := hi.g_range hal i (by simp [hg]); omega
      by_cases hone : s.hi - s.lo = 1
      · have e := cnt4 (f := s.fut) (x := { s.fut i with word := .result, ppc := .setting, g := .decd }) hlt .inn .decd hg rfl
        simp at e
        obtain ⟨e1, e2, e3, e4⟩ := e
        -- the only registered future: nobody has decremented yet, so nobody is the setter
        have hnos : s.setter = none := by
          cases hs : s.setter with
          | none => rfl
          | some j =>
              have hgj := hi.set_g hal j hs
              have hj := hi.lt_hi hal (i := j) (by simp [hgj])
              have := cntG_pos hj hgj
              have := hi.c_wc hal
              simp only [Ninn, Ntaken, Ndecd, Nback] at *
              omega
        simp only [Ninn, Ntaken, Ndecd, Nback] at *
        constructor <;> (try simp only [hone, ↓reduceIte, Ninn, Ntaken, Ndecd, Nback, e2, e4])
        inv_solve_at hi i
      · have e := cnt4 (f := s.fut) (x := { s.fut i with word := .result, ppc := .took, g := .taken }) hlt .inn .taken hg rfl
        simp at e
        obtain ⟨e1, e2, e3, e4⟩ := e
        simp only [Ninn, Ntaken, Ndecd, Nback] at *
        constructor <;> (try simp only [hone, ↓reduceIte, Ninn, Ntaken, Ndecd, Nback, e3, e4])
        inv_solve_at hi i

theorem inv_pLock (hi : Inv w s) (i : Nat) (h : (s.fut i).ppc = .setting) (hm : s.holder = none) :
    Inv w (doPLock s i) := by
  have hal := hi.alive_of_setting h
  have hc : ∀ a m, cntG (upd s.fut i { s.fut i with ppc := .locked }) a m = cntG s.fut a m := fun a m => cntG_upd_g rfl
  constructor <;> (try simp only [doPLock, Ninn, Ntaken, Ndecd, Nback, hc])
  inv_solve_at hi i

theorem inv_pUnlock (hi : Inv w s) (i : Nat) (h : (s.fut i).ppc = .locked) : Inv w (doPUnlock s i) := by
  have hal := hi.alive_of_locked h
  have hc : ∀ a m, cntG (upd s.fut i { s.fut i with ppc := .done }) a m = cntG s.fut a m := fun a m => cntG_upd_g rfl
  constructor <;> (try simp only [doPUnlock, Ninn, Ntaken, Ndecd, Nback, hc])
  inv_solve_at hi i

theorem inv_pInvoke (hi : Inv w s) (i : Nat) (h : (s.fut i).ppc = .fire) : Inv w (doPInvoke s i) := by
  have hc : ∀ a m, cntG (upd s.fut i { s.fut i with ppc := .done, ndel := (s.fut i).ndel + 1 }) a m = cntG s.fut a m :=
    fun a m => cntG_upd_g rfl
  have hfi : i < s.fi := by
    by_cases hlt : i < s.fi
    · exact hlt
    · exact absurd h (hi.todo i (by omega)).2.2
  constructor <;> (try simp only [doPInvoke, Ninn, Ntaken, Ndecd, Nback, hc])
  inv_solve_at hi i

end Yaclib.Wait
