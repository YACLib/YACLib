/- ghost history, the coroutine's own Result, frame and locals (InvD); the executor stored in awaited cores (InvE);
   all invariants of the C13 model hold in every reachable state -/
import YaclibModel.Proofs.CoroC
namespace Yaclib.Coro

/-- what `await_resume` must read: the awaited Result of the (first) awaited object, if the awaiter returns it -/
def wantOf (w : Workload) (op : Op) : Option (Option Res) :=
  if op.get then (match op.cells.head? with
    | some j => some (some (w.cell j).res)
    | none => none) else none

/-- the awaited failure of this resumption escaped the coroutine body -/
def Rec.escaped (w : Workload) (r : Rec) : Bool :=
  match r.got with
  | some (some x) => x.isFail && !w.catches
  | _ => false

/-- the Result the coroutine must publish -/
def outcome (s : State) : Res := if s.dropped then .err else finalRes s

/-- Task awaiters await Tasks, the other awaiters do not (a Task has no callback word to race on before it is started) -/
def Workload.WFT (w : Workload) : Prop := ∀ op ∈ w.prog, ∀ j ∈ op.cells, (op.kind = .task ↔ (w.cell j).lazy = true)

structure InvD (w : Workload) (s : State) : Prop where
  rec_idx : s.resumed.map (·.k) = List.range s.k
  rec_done : ∀ r ∈ s.resumed, r.allDone = true
  rec_op : ∀ r ∈ s.resumed, w.prog[r.k]? = some r.op
  rec_got : ∀ r ∈ s.resumed, r.got = wantOf w r.op
  rec_ctx : ∀ r ∈ s.resumed, r.op.kind ≠ .current → ctxOk r.op.kind r.ctx = true
  rec_cell : ∀ r ∈ s.resumed, ∀ j, r.ctx = .cell j → j ∈ r.op.cells
  rec_own : ∀ r ∈ s.resumed, ownKind r.op.kind = true → (r.ctx = .inl ∨ r.ctx = .exec r.exBefore) ∧ r.exAfter = r.exBefore
  rec_named : ∀ r ∈ s.resumed, (∀ j, r.ctx ≠ .cell j) → r.op.kind ≠ .task → r.exAfter = startExec r.op.kind r.exBefore
  exec_op : ∀ op rest, s.todo = op :: rest → inOp s.pc = true → (op.kind = .task → s.pc = .tstore) →
    s.exec = startExec op.kind s.ex0
  sub_ok : ∀ x ∈ s.submits, ∀ op, w.prog[x.1]? = some op → execOk op.kind x.2 = true
  failed_iff : s.failed = s.resumed.any (Rec.escaped w)
  failed_todo : s.failed = true → s.todo = []
  fin_res : s.pc = .fin → s.result = some (outcome s) ∧ s.published = []
  done_res : (s.pc = .done ∨ s.pc = .gone) → s.result = some (outcome s) ∧ s.published = [outcome s]
  not_fin : (s.pc ≠ .fin ∧ s.pc ≠ .done ∧ s.pc ≠ .gone) → s.result = none ∧ s.published = [] ∧ s.dropped = false
  frame : s.frameDestroyed = if s.pc = .gone then 1 else 0
  locals : s.localDtors + s.live = w.locals
  gone_live : s.pc = .gone → s.live = 0
  live_full : (inOp s.pc = true ∨ s.pc = .idle) → s.live = w.locals
  drop_live : s.dropped = true → (s.pc = .fin → s.live = w.locals)
  undropped_done : s.pc = .done → s.dropped = false → s.live = 0
  drop_susp : s.dropped = true → s.k < w.prog.length
  /-- the body of a coroutine that was not dropped is left only after the whole program (or what an escaped failure left of it) -/
  left_todo : (s.pc = .fin ∨ s.pc = .done ∨ s.pc = .gone) → s.dropped = false → s.todo = []

/-- nobody writes the executor stored in an awaited core that is not a Task: a coroutine resumed through
    `PromiseType::Here/Next(caller)` copies the executor out of the completed core and leaves the core's own as it was -/
structure InvE (w : Workload) (s : State) : Prop where
  cexec : ∀ j, (w.cell j).lazy = false → (s.cells j).cexec = (w.cell j).exec0
  rec_cell_exec : ∀ r ∈ s.resumed, ∀ j, r.ctx = .cell j → (w.cell j).lazy = false → r.exAfter = (w.cell j).exec0

theorem invD_init (w : Workload) : InvD w (init w) := by
  constructor <;> simp [init, inOp, outcome]

theorem invE_init (w : Workload) : InvE w (init w) := by
  constructor <;> simp [init, initCell]

/- As `AutoA` … `AutoC`, for InvD and InvE. -/
namespace AutoD
attribute [scoped grind →] InvD.rec_idx InvD.rec_done InvD.rec_op InvD.rec_got InvD.rec_ctx InvD.rec_cell InvD.rec_own
  InvD.rec_named InvD.exec_op InvD.sub_ok InvD.failed_iff InvD.failed_todo InvD.fin_res InvD.done_res InvD.not_fin InvD.frame
  InvD.locals InvD.gone_live InvD.live_full InvD.drop_live InvD.undropped_done InvD.drop_susp InvD.left_todo
end AutoD

namespace AutoE
attribute [scoped grind →] InvE.cexec InvE.rec_cell_exec
end AutoE

open Auto AutoD
attribute [local grind] inOp outcome finalRes startExec execAfter Rec.escaped ownKind
attribute [local grind =] List.range_succ

theorem k_lt_of_inop {w : Workload} {s : State} (ha : InvA w s) (h : inOp s.pc = true) : s.k < w.prog.length := by
  obtain ⟨op, rest, ht⟩ := todo_cons_of_inop ha h
  exact (drop_succ_of_cons (ha.drop_eq ht)).2

theorem prog_at_k {w : Workload} {s : State} {op : Op} {rest : List Op} (ha : InvA w s) (ht : s.todo = op :: rest) :
    w.prog[s.k]? = some op := by
  have h := congrArg List.head? (ha.drop_eq ht)
  rwa [List.head?_drop] at h

theorem cbDone_ne_tstore (k : AKind) (j e : Nat) : cbDone k j e ≠ .tstore := by cases k <;> simp [cbDone]
theorem selfDone_ne_tstore (k : AKind) : selfDone k ≠ .tstore := by cases k <;> simp [selfDone]
theorem subNext_ne_tstore (k : AKind) : subNext k ≠ .tstore := by cases k <;> simp [subNext]

theorem allDone_of_all_res {s : State} {op : Op} (h : ∀ j, j ∈ op.cells → (s.word j).isResult = true) :
    allDoneOf s op = true := by
  simp only [allDoneOf, List.all_eq_true]; exact h

theorem got_eq_want {w : Workload} {s : State} {op : Op} (hw : s.w = w)
    (h : ∀ j, j ∈ op.cells → (s.word j).isResult = true) : gotOf s op = wantOf w op := by
  simp only [gotOf, wantOf]
  cases hg : op.get
  · simp
  · cases hc : op.cells with
    | nil => simp
    | cons j t =>
        have := h j (by rw [hc]; simp)
        simp [State.stored, this, hw]

theorem escaped_eq {w : Workload} {s : State} {r : Rec} {op : Op} (hw : s.w = w) (hr : r.got = gotOf s op) :
    Rec.escaped w r = escapes s op := by
  simp only [Rec.escaped, escapes, hr, hw]
  rfl

theorem ctxOk_own_not_cell {k : AKind} {j : Nat} (h : ownKind k = true) : ctxOk k (.cell j) = false := by
  cases k <;> simp_all [ownKind, ctxOk]

theorem ctxOk_own_cases {k : AKind} {c : Ctx} (h : ownKind k = true) (hc : ctxOk k c = true) :
    c = .inl ∨ ∃ e, c = .exec e := by
  cases c with
  | inl => left; rfl
  | exec e => right; exact ⟨e, rfl⟩
  | cell j => rw [ctxOk_own_not_cell h] at hc; cases hc

theorem execAfter_not_cell {s : State} {c : Ctx} (h : ∀ j, c ≠ .cell j) : execAfter s c = s.exec := by
  cases c with
  | cell j => exact absurd rfl (h j)
  | inl => rfl
  | exec e => rfl

attribute [local grind .] cbDone_ne_tstore selfDone_ne_tstore subNext_ne_tstore

/-- InvD looks at the program position only to tell whether the coroutine is inside an awaiter, about to start a Task, or has
    left its body: a step inside an awaiter that touches only the awaiter's own state preserves it -/
theorem invD_inop {w s} (pc' : CPc) (cells' : Nat → Cell) (st' : List CbSt) (cnt' : Nat) (hd : InvD w s)
    (hin : inOp s.pc = true) (hin' : inOp pc' = true) (hts : pc' ≠ .tstore) :
    InvD w { s with pc := pc', cells := cells', st := st', cnt := cnt' } := by
  inv_auto

theorem invD_cells {w s} (cells' : Nat → Cell) (st' : List CbSt) (cnt' : Nat) (tr' : List Nat) (hd : InvD w s) :
    InvD w { s with cells := cells', st := st', cnt := cnt', tasksReleased := tr' } := by
  cases hd; constructor <;> assumption

theorem invD_current {w s op rest} (hwf : w.WF) (hi : Inv w s) (hd : InvD w s) (h : s.pc = .curr) (ht : s.todo = op :: rest) :
    InvD w (doCurrent s op rest) := by
  have ha := hi.a
  have hop := prog_at_k ha ht
  have hpk := ha.pc_kind op rest ht
  rw [h] at hpk
  have hk : op.kind = .current := by simpa [pcKindOk] using hpk
  have hcells := wf_nocells (op_wf hwf ha ht) (by rw [hk]; rfl)
  have hwant : wantOf w op = none := by simp [wantOf, hcells]
  have hex := hd.exec_op op rest ht (by rw [h]; rfl) (by rw [hk]; simp)
  have hkk := (drop_succ_of_cons (ha.drop_eq ht)).2
  inv_auto

theorem invD_resume {w s op rest c} (hi : Inv w s) (hd : InvD w s) (h : s.pc = .wake c) (ht : s.todo = op :: rest) :
    InvD w (doResume s op rest c) := by
  have ha := hi.a
  have hb := hi.b
  have hdec : decided s.pc = true := by rw [h]; rfl
  have hin : inOp s.pc = true := by rw [h]; rfl
  have hall : ∀ j, j ∈ op.cells → (s.word j).isResult = true := fun j hj => hb.all_res hdec op rest j ht hj
  have hop := prog_at_k ha ht
  have hpk := ha.pc_kind op rest ht
  rw [h] at hpk
  have hctx : ctxOk op.kind c = true := by simpa [pcKindOk] using hpk
  have hkk := drop_succ_of_cons (ha.drop_eq ht)
  have hdone := allDone_of_all_res hall
  have hgot := got_eq_want ha.hw hall
  have hcell : ∀ j, c = .cell j → j ∈ op.cells := fun j hj => hb.wake_cell j (by rw [h, hj]) op rest ht
  have hown : ownKind op.kind = true → (c = .inl ∨ c = .exec s.ex0) ∧ execAfter s c = s.ex0 := by
    intro ho
    obtain ⟨h1, h2⟩ := ha.own_exec op rest ht hin ho
    rcases ctxOk_own_cases ho hctx with hc | ⟨e, hc⟩
    · subst hc; exact ⟨Or.inl rfl, h1⟩
    · subst hc
      have := h2 e (by rw [h]; rfl)
      subst this
      exact ⟨Or.inr rfl, h1⟩
  have hnamed : (∀ j, c ≠ .cell j) → op.kind ≠ .task → execAfter s c = startExec op.kind s.ex0 := by
    intro hc hk
    rw [execAfter_not_cell hc]
    exact hd.exec_op op rest ht hin (fun h => absurd h hk)
  have hesc : Rec.escaped w { k := s.k, op := op, ctx := c, allDone := allDoneOf s op, got := gotOf s op,
                              exBefore := s.ex0, exAfter := execAfter s c } = escapes s op :=
    escaped_eq ha.hw rfl
  inv_auto

theorem invD_step {w s l s'} (hwf : w.WF) (hi : Inv w s) (hd : InvD w s) (hs : Step s l s') : InvD w s' := by
  have ha := hi.a
  have hb := hi.b
  cases hs with
  | pXchg j l f hw hl => exact invD_cells _ _ _ _ hd
  | envPush j l f hw hu => exact invD_cells _ _ _ _ hd
  | envSwap j e hu => exact invD_cells _ _ _ _ hd
  | ldtor h hl => inv_auto
  | ret h ht => inv_auto
  | publish r h hr hl => inv_auto
  | fdtor h hl => inv_auto
  | tdtor j h hl hr => exact invD_cells _ _ _ _ hd
  | exCall e h => exact invD_inop _ _ _ _ hd (by grind) (by grind) (by grind)
  | rdLoad op rest j x h ht hj hx => exact invD_inop _ _ _ _ hd (by grind) (by grind) (by grind)
  | mload v h hv => exact invD_inop _ _ _ _ hd (by grind) (by grind) (by grind)
  | ready x h => simp only [doReady]; split <;> exact invD_inop _ _ _ _ hd (by grind) (by grind) (by grind)
  | mready v h => simp only [doMReady]; split <;> exact invD_inop _ _ _ _ hd (by grind) (by grind) (by grind)
  | msub op rest h ht => exact invD_inop _ _ _ _ hd (by grind) (by grind) (by grind)
  | msuspend op rest h ht =>
      simp only [doMsuspend]; split <;> exact invD_inop _ _ _ _ hd (by grind) (by grind) (by grind)
  | regLoad op rest p j x h ht hj hx =>
      simp only [doRegLoad, regFail, regFrom, afterReg]
      (repeat' split) <;> exact invD_inop _ _ _ _ hd (by grind) (by grind) (by grind)
  | casOk op rest p j l f h ht hj hw hu =>
      simp only [doCasOk, regFrom, afterReg, State.setWord]
      (repeat' split) <;> exact invD_inop _ _ _ _ hd (by grind) (by grind) (by grind)
  | casRetry op rest p j h ht hj hw hu => exact hd
  | casFail op rest p j h ht hj hw =>
      simp only [regFail, regFrom, afterReg]
      (repeat' split) <;> exact invD_inop _ _ _ _ hd (by grind) (by grind) (by grind)
  | fire op rest j p walk ht hw hp =>
      have hin := (hb.cbs_inop j p (by rw [hw]; exact hp)).1
      have hne : s.pc ≠ .tstore := by
        intro h; have := hb.fresh (by rw [h]; rfl) p _ (hb.cbs_cell j p op rest (by rw [hw]; exact hp) ht).2; cases this
      simp only [doFire, State.setWord]
      (repeat' split) <;> exact invD_inop _ _ _ _ hd hin (by grind) (by grind)
  | start op rest h ht =>
      -- of the awaiter's first position InvD asks only that it is inside the awaiter, and `.tstore` for a Task
      have key : ∀ pc' st' c ex, ex = startExec op.kind s.exec → inOp pc' = true → (op.kind = .task → pc' = .tstore) →
          InvD w { s with st := st', ex0 := s.exec, exec := ex, cnt := c, pc := pc' } := by
        intro pc' st' c ex hex h1 h2; inv_auto
      rcases hk : op.kind with _ | _ | _ | _ | _ | _ | _ | _ | _ <;> simp only [doStart, hk, regFrom, afterReg] <;>
        (repeat' split) <;> exact key _ _ _ _ (by rw [hk]) (by grind) (by grind)
  | tstore op rest j h ht hj =>
      have hk : op.kind = .task := by have := ha.pc_kind op rest ht; rw [h] at this; simpa [pcKindOk] using this
      inv_auto
  | submit e h =>
      have hsub : ∀ op, w.prog[s.k]? = some op → execOk op.kind e = true := by
        intro op hop
        obtain ⟨op', rest, ht⟩ := todo_cons_of_inop ha (by rw [h]; rfl)
        have h1 := prog_at_k ha ht
        rw [h1] at hop
        obtain rfl : op' = op := Option.some.inj hop
        have := ha.pc_kind op' rest ht
        rw [h] at this; simpa [pcKindOk] using this
      inv_auto
  | exDrop e h =>
      have hk := k_lt_of_inop ha (show inOp s.pc = true by rw [h]; rfl)
      inv_auto
  | current op rest h ht => exact invD_current hwf hi hd h ht
  | resume op rest c h ht => exact invD_resume hi hd h ht

theorem upd_cexec_word (s : State) (j i : Nat) (wd : Word) :
    ((s.setWord j wd).cells i).cexec = (s.cells i).cexec := by
  simp only [State.setWord, upd]; split <;> simp_all

theorem setWord_resumed (s : State) (j : Nat) (wd : Word) : (s.setWord j wd).resumed = s.resumed := rfl

theorem wft_lazy {w : Workload} {s : State} {op : Op} {rest : List Op} {j : Nat} (hwt : w.WFT) (ha : InvA w s)
    (ht : s.todo = op :: rest) (hj : j ∈ op.cells) : (op.kind = .task ↔ (w.cell j).lazy = true) :=
  hwt op (List.mem_of_mem_drop (ha.drop_eq ht ▸ List.mem_cons_self)) j hj

/-- InvE looks only at the executors stored in the cores and at the resumption records -/
theorem invE_of_eq {w s s'} (he : InvE w s) (hc : ∀ j, (s'.cells j).cexec = (s.cells j).cexec) (hr : s'.resumed = s.resumed) :
    InvE w s' :=
  ⟨fun j hj => (hc j).trans (he.cexec j hj), fun r hr' => he.rec_cell_exec r (hr ▸ hr')⟩

open AutoE in
theorem invE_step {w s l s'} (hwt : w.WFT) (hi : Inv w s) (he : InvE w s) (hs : Step s l s') : InvE w s' := by
  have ha := hi.a
  have hw := ha.hw
  cases hs with
  | pXchg j l f hw hl => exact invE_of_eq he (fun i => upd_cexec_word s j i _) rfl
  | envPush j l f hw hu => exact invE_of_eq he (fun i => upd_cexec_word s j i _) rfl
  | envSwap j e hu =>
      have hl : (w.cell j).lazy = true := by simp [swapAllowed, hw] at hu; exact hu.1
      inv_auto
  | fire op rest j p walk ht hw' hp =>
      simp only [doFire]
      (repeat' split) <;> exact invE_of_eq he (fun i => upd_cexec_word s j i _) rfl
  | exCall e h => exact invE_of_eq he (fun _ => rfl) rfl
  | exDrop e h => exact invE_of_eq he (fun _ => rfl) rfl
  | start op rest h ht =>
      simp only [doStart, regFrom, afterReg]
      (repeat' split) <;> exact invE_of_eq he (fun _ => rfl) rfl
  | rdLoad op rest j x h ht hj hx => exact invE_of_eq he (fun _ => rfl) rfl
  | ready x h => simp only [doReady]; split <;> exact invE_of_eq he (fun _ => rfl) rfl
  | mready v h => simp only [doMReady]; split <;> exact invE_of_eq he (fun _ => rfl) rfl
  | regLoad op rest p j x h ht hj hx =>
      simp only [doRegLoad, regFail, regFrom, afterReg]
      (repeat' split) <;> exact invE_of_eq he (fun _ => rfl) rfl
  | casOk op rest p j l f h ht hj hw' hu =>
      simp only [doCasOk, regFrom, afterReg]
      (repeat' split) <;> exact invE_of_eq he (fun i => upd_cexec_word s j i _) rfl
  | casRetry op rest p j h ht hj hw' hu => exact he
  | casFail op rest p j h ht hj hw' =>
      simp only [regFail, regFrom, afterReg]
      (repeat' split) <;> exact invE_of_eq he (fun _ => rfl) rfl
  | msub op rest h ht => exact invE_of_eq he (fun _ => rfl) rfl
  | mload v h hv => exact invE_of_eq he (fun _ => rfl) rfl
  | msuspend op rest h ht => simp only [doMsuspend]; split <;> exact invE_of_eq he (fun _ => rfl) rfl
  | tstore op rest j h ht hj =>
      have hpk := ha.pc_kind op rest ht
      rw [h] at hpk
      have hk : op.kind = .task := by simpa [pcKindOk] using hpk
      have hlazy : (w.cell j).lazy = true := (wft_lazy hwt ha ht (List.mem_iff_getElem?.mpr ⟨0, hj⟩)).mp hk
      inv_auto
  | submit e h => exact invE_of_eq he (fun _ => rfl) rfl
  | resume op rest c h ht =>
      inv_auto
  | current op rest h ht =>
      inv_auto
  | tdtor j h hl hr => exact invE_of_eq he (fun _ => rfl) rfl
  | ldtor h hl => exact invE_of_eq he (fun _ => rfl) rfl
  | ret h ht => exact invE_of_eq he (fun _ => rfl) rfl
  | publish r h hr hl => exact invE_of_eq he (fun _ => rfl) rfl
  | fdtor h hl => exact invE_of_eq he (fun _ => rfl) rfl

structure Full (w : Workload) (s : State) : Prop where
  i : Inv w s
  d : InvD w s
  e : InvE w s

theorem full_init (w : Workload) : Full w (init w) := ⟨inv_init w, invD_init w, invE_init w⟩

theorem full_step {w s l s'} (hwf : w.WF) (hwt : w.WFT) (h : Full w s) (hs : Step s l s') : Full w s' :=
  ⟨inv_step hwf h.i hs, invD_step hwf h.i h.d hs, invE_step hwt h.i h.e hs⟩

theorem full_reachable {w s} (hwf : w.WF) (hwt : w.WFT) (h : Reachable w s) : Full w s := by
  induction h with
  | init => exact full_init w
  | step _ hs ih => exact full_step hwf hwt ih hs

end Yaclib.Coro
