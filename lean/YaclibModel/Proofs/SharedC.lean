/- Conservation of callbacks in the C06 model: every callback object ever created is, at any moment, in exactly one
   place — still in its owner's hands, in the word's list, in the list the fulfiller is walking, in the executor's
   hands, or fired. -/
import YaclibModel.Proofs.Shared
namespace Yaclib.Shared

structure InvC (s : State) : Prop where
  conserve : ∀ c, s.registered.count c =
    (firedIds s).count c + (wordList s.word).count c + (walkList s.fpc).count c + s.inflight.count c + s.jobs.count c
  /-- callback identities are fresh: (owner, sequence number) -/
  fresh : ∀ c ∈ s.registered, c.seq < (s.obs c.owner).seq
  nodup : ∀ c, s.registered.count c ≤ 1
  /-- `inflight` is exactly what the observers hold in their program counters -/
  link1 : ∀ t c, heldCb (s.obs t).pc = some c → c ∈ s.inflight ∧ c.owner = t
  link2 : ∀ c ∈ s.inflight, heldCb (s.obs c.owner).pc = some c
  evt_reg : ∀ t c, (s.obs t).pc = .evt c → c ∈ s.registered

theorem invC_init (w : Workload) : InvC (init w) := by
  constructor <;> simp [init, firedIds, wordList, walkList, heldCb]

theorem InvC.att {s : State} (hi : InvC s) {t c e} (h : (s.obs t).pc = .att c e) : c ∈ s.inflight ∧ c.owner = t :=
  hi.link1 t c (by rw [h]; rfl)

theorem InvC.run {s : State} (hi : InvC s) {t c st} (h : (s.obs t).pc = .run c st) : c ∈ s.inflight ∧ c.owner = t :=
  hi.link1 t c (by rw [h]; rfl)

theorem InvC.mem_erase {s : State} (hi : InvC s) {c c'} (hm : c' ∈ s.inflight.erase c) : c' ≠ c ∧ c' ∈ s.inflight :=
  mem_erase_of_count_le_one (by have := hi.conserve c; have := hi.nodup c; omega) hm

theorem InvC.count_new {s : State} (hi : InvC s) (t : Nat) (k : Kind) : s.registered.count ⟨t, (s.obs t).seq, k⟩ = 0 :=
  List.count_eq_zero.mpr fun hm => by have := hi.fresh _ hm; simp at this

theorem InvC.inflight_reg {s : State} (hi : InvC s) {c} (h : c ∈ s.inflight) : c ∈ s.registered := by
  have := hi.conserve c; have := List.count_pos_iff.mpr h; exact List.count_pos_iff.mp (by omega)

namespace Auto
attribute [scoped grind →] InvC.fresh InvC.link1 InvC.link2 InvC.evt_reg InvC.att InvC.run InvC.mem_erase InvC.inflight_reg
attribute [scoped grind =] InvC.conserve InvC.count_new wordList_list wordList_result walkList_walk walkList_start walkList_dec
  heldCb_att heldCb_run heldCb_idle heldCb_evt heldCb_rep heldCb_touching heldCb_gotRef
scoped grind_pattern InvC.nodup => InvC s, s.registered.count c
end Auto
open Auto

theorem invC_step {w s l s'} (ha : InvA w s) (hi : InvC s) (hs : Step s l s') : InvC s' := by
  cases hs with
  | oLoad t op rest k x h ht hk hr hx | oCasOk t c e h hw | oCasFail t c e x h hw hx | oCasSpur t c e x h hw hx =>
      simp only [doLoad, doCasOk, reload, failPath]
      split
      · inv_auto
      · split <;> inv_auto
  | _ => inv_auto

end Yaclib.Shared
