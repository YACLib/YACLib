/- Lazy pipelines: nothing happens while the client holds an unstarted Task; cancel; the eager twin. -/
import YaclibModel.Proofs.PipelineSpec

namespace Yaclib.Pipeline
open Yaclib.Extracted

/-- an unstarted Task: only cores and functors have been allocated -/
def Untouched (st : State) : Prop :=
  (∃ src steps, st.ctl = .task src steps) ∧ st.crashed = false ∧ st.g.invoked = [] ∧ st.g.ran = [] ∧ st.g.subs = [] ∧
  st.g.jobs = [] ∧ st.g.submitCalls = 0 ∧ st.g.cFree = 0 ∧ st.g.fFree = 0 ∧ st.result = none ∧ st.got = none

theorem clientEv_task (ph : Prog × Handle) (ev : Event) (h : (clientEv ph ev).2 = .task) : ph.2 = .task := by
  obtain ⟨p, hd⟩ := ph
  cases ev <;> cases hd <;> simp only [clientEv] at h ⊢ <;> (try exact h) <;> (try cases h)
  all_goals (split at h <;> (try exact h) <;> (try cases h))

theorem untouched_step (cfg : Cfg) (st : State) (ph : Prog × Handle) (ev : Event)
    (hu : Untouched st) (h1 : ph.2 = .task) (h : (clientEv ph ev).2 = .task) : Untouched (mech cfg st ev) := by
  obtain ⟨p, hd⟩ := ph
  simp only at h1
  subst h1
  obtain ⟨⟨src, steps, hctl⟩, hc, rest⟩ := hu
  obtain ⟨ctl, held, ended, got, result, crashed, g⟩ := st
  simp only at hctl hc rest
  subst hctl hc
  cases ev with
  | attach s =>
    cases hdm : s.mode.isDetach <;> simp_all [mech, Untouched, G.allocCore, G.allocFunctor]
  | start k =>
    simp only [clientEv] at h
    split at h <;> cases h
  | src s lazy head => simp_all [mech, Untouched]
  | set q => simp_all [mech, Untouched]
  | call k => simp_all [mech, Untouched]
  | dropFuture => simp_all [mech, Untouched]
  | get => simp_all [mech, Untouched]

/-- as long as the client holds the Task it has not started (whatever else it does: attaching steps, poking executors,
    using promises), nothing has run, nothing was submitted, nothing was released — for every program, D10 or not -/
theorem untouched_run (cfg : Cfg) : ∀ (evs : List Event) (p : Prog),
    client evs = some (p, .task) → Untouched (run cfg {} evs) := by
  intro evs p h
  have := run_client cfg (I := fun st _ hd => hd = .task → Untouched st)
    (fun st p hd ev hu h2 => untouched_step cfg st (p, hd) ev (hu (clientEv_task _ ev h2)) (clientEv_task _ ev h2) h2)
    (fun s lazy head hwf h3 => by
      cases lazy with
      | false => simp at h3
      | true => simp [mech, hwf, Untouched, G.allocCore, G.allocFunctor]) evs
  rw [h] at this
  exact this rfl

/-! ### the eager twin -/

/-- the same pipeline written eagerly: MakeTask ↦ MakeFuture, Schedule(e, f) ↦ Run(e', f), LazyContract(e, f) ↦
    AsyncContract(e', f), where e' is the executor the start named (ToFuture(e') / Detach(e')) or else e -/
def Prog.twin (p : Prog) : Prog :=
  let ovr := p.start.bind StartKind.ovr
  { src := (match p.src with
            | .promiseFn e q f => .promiseFn (ovr.getD e) q f
            | s => s),
    lazy := false,
    steps := overrideHead p.steps (if p.src == .unit then ovr else none),
    start := none }

theorem overrideHead_none (steps : List Step) : overrideHead steps none = steps := by
  cases steps <;> rfl

/-- a started lazy pipeline reads like its eager twin (a MakeTask head started *on* an executor has no eager
    counterpart: MakeFuture is never submitted anywhere) -/
theorem spec_lazy_eq_twin (cfg : Cfg) (p : Prog) (hl : p.lazy = true)
    (hready : p.src.isReady = true → p.start.bind StartKind.ovr = none) :
    spec cfg p = spec cfg p.twin := by
  obtain ⟨src, lazy, steps, start⟩ := p
  simp only at hl
  subst hl
  cases src with
  | ready r =>
    have := hready rfl
    simp only at this
    simp [spec, Prog.twin, this, specSrc, offered, overrideHead_none]
  | promiseFn e q f =>
    have h1 : ∀ e', (Src.promiseFn e' q f == Src.unit) = false := fun _ => rfl
    simp [spec, Prog.twin, specSrc, overrideHead_none, h1]
  | unit => simp [spec, Prog.twin, specSrc, overrideHead_none]
  | contract q f => simp [spec, Prog.twin, specSrc, overrideHead_none]
  | contractOn e q f => simp [spec, Prog.twin, specSrc, overrideHead_none]
  | sharedReady r => simp [spec, Prog.twin, specSrc, overrideHead_none]
  | sharedContract q f => simp [spec, Prog.twin, specSrc, overrideHead_none]
  | sharedKept e q f pre => simp [spec, Prog.twin, specSrc, overrideHead_none]

/-! ### cancel -/

def allValue : List Step → Bool
  | [] => true
  | s :: ss => (s.sig == .val) && allValue ss

theorem offered_err (cfg : Cfg) (e : Exec) (c : Nat) (subs : List Nat) : ∃ c', (offered cfg e (.err c) subs).1 = .err c' := by
  cases e with
  | inl => exact ⟨c, rfl⟩
  | stp => exact ⟨0, rfl⟩
  | user k =>
    simp only [offered]
    by_cases h : rejects cfg subs k = true
    · exact ⟨0, by simp [h, R.stop]⟩
    · exact ⟨c, by simp [h]⟩

/-- a chain of value callbacks fed with an error: none is invoked, an error comes out -/
theorem specSteps_allValue_err (cfg : Cfg) : ∀ (ss : List Step) (c : Nat) (inh : Exec) (subs inv : List Nat),
    allValue ss = true →
    (specSteps cfg ss false (.err c) inh subs inv).invoked = inv ∧ ∃ c', (specSteps cfg ss false (.err c) inh subs inv).r = .err c'
  | [], c, inh, subs, inv, _ => by rw [specSteps_nil]; exact ⟨rfl, c, rfl⟩
  | (.mk id sig mode beh) :: ss, c, inh, subs, inv, h => by
    simp only [allValue, Bool.and_eq_true, Step.sig, beq_iff_eq] at h
    obtain ⟨hs, hss⟩ := h
    subst hs
    rw [specSteps_cons]
    simp only [Bool.or_false, Bool.false_eq_true, ite_false, Step.mode]
    by_cases hsub : mode.submits = true
    · simp only [hsub, ite_true]
      obtain ⟨c', hc'⟩ := offered_err cfg (ownExec mode inh) c subs
      rw [specCall_skip _ _ _ _ _ _ _ _ _ (by rw [hc']; rfl)]
      simp only [hc']
      exact specSteps_allValue_err cfg ss c' _ _ _ hss
    · simp only [hsub, Bool.false_eq_true, ite_false]
      rw [specCall_skip _ _ _ _ _ _ _ _ _ (by rfl)]
      exact specSteps_allValue_err cfg ss c _ _ _ hss

/-- a cancelled Schedule head (value callback, no argument) is Dropped: not invoked, StopError goes down the chain -/
theorem specSteps_cancel_head (cfg : Cfg) (i : Nat) (b : Beh) (as : List Step) (inh : Exec) (subs inv : List Nat)
    (has : allValue as = true) :
    (specSteps cfg ((.mk i .val (.on .stp) b) :: as) true (.val 0) inh subs inv).invoked = inv ∧
    ∃ c, (specSteps cfg ((.mk i .val (.on .stp) b) :: as) true (.val 0) inh subs inv).r = .err c := by
  rw [specSteps_cons]
  simp only [Step.mode, Mode.submits, Bool.or_true, ite_true, ownExec, Mode.explicit, offered]
  rw [specCall_skip _ _ _ _ _ _ _ _ _ (by rfl)]
  exact specSteps_allValue_err cfg as 0 _ _ _ has

end Yaclib.Pipeline
