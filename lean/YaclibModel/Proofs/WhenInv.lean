/- All invariants of the combinator model together, and what follows for crashes. -/
import YaclibModel.Proofs.WhenFinal

namespace Yaclib.When

/-- `Any<LastFail>` computes `2 * count` in a size_t -/
def Workload.wf (w : Workload) : Prop := w.strat = .anyLF → 2 * w.n < two64

structure Inv (w : Workload) (s : State) : Prop where
  c : InvC w s
  r : InvR w s
  o : InvO w s
  f : w.strat.usesFlag = true → InvF w s
  g : w.strat = .anyFF → InvG w s
  l : w.strat = .anyLF → w.n ≠ 0 → InvL w s

theorem no_step_of_empty {w s l s'} (hC : InvC w s) (hn : w.n = 0) (hs : Step w s l s') : False := by
  have hidx := @InvC.idx w s hC
  clear hC
  cases hs <;> grind

theorem invl_reachable' {w s} (hst : w.strat = .anyLF) (hwf : w.wf) (hn0 : w.n ≠ 0) (h : Reachable w s) : InvL w s :=
  invl_reachable hst (hwf hst) hn0 h

theorem inv_reachable {w s} (hwf : w.wf) (h : Reachable w s) : Inv w s := by
  induction h with
  | init =>
      exact ⟨inv_init w, invr_init w, invo_init w, fun _ => invf_init w, fun _ => invg_init w,
        fun hl hn0 => invl_init w (hwf hl) hn0⟩
  | step hr hs ih =>
      have hW := winFree_of ih.c ih.r ih.f ih.g (fun hl => ih.l hl (fun h0 => no_step_of_empty ih.c h0 hs))
      exact ⟨invc_step ih.c hs, invr_step ih.c ih.r hs, invo_step ih.c hW ih.o hs,
        fun hu => invf_step hu ih.c (ih.f hu) hs, fun hg => invg_step hg ih.c (ih.g hg) hs,
        fun hl hn0 => invl_step hl ih.c ih.r (ih.l hl hn0) hs⟩

/-- crashes: no consumption ever reaches a throwing state, no destructor ever throws -/
structure InvB (w : Workload) (s : State) : Prop where
  no_dboom : ∀ i, s.pc i ≠ .dboom
  no_boom : ∀ i, s.pc i ≠ .boom
  not_crashed : s.crashed = false

theorem invb_init (w : Workload) : InvB w (init w) := by
  constructor <;> simp [init]

/- patterns for the clauses of `InvB` -/
namespace Auto
attribute [scoped grind →] InvB.not_crashed
attribute [scoped grind! .] InvB.no_dboom InvB.no_boom
end Auto
open Auto

/-- `~All<FirstFail>` with the promise still valid retires only values: no `Value()` of a failure -/
theorem ok_in_dtorRel {w s} (hI : Inv w s) {i j : Nat} (hp : s.pc i = .dtorRel j) (hst : w.strat = .allVec true)
    (hv : s.pValid = true) : ok (w.inp j) = true :=
  all_ok_in_dtor hI.c hI.r hI.o (hI.f (by rw [hst]; rfl)) (by rw [hp]; rfl) hv j (hI.c.dtorRel i j hp).1

theorem invb_step {w s l s'} (hI : Inv w s) (hi : InvB w s) (hs : Step w s l s') : InvB w s' := by
  cases hs with
  | regSet i okb hc hb hr hn =>
      have := consumeStart_facts w.strat (w.inp i)
      cases okb <;> inv_auto
  | fire i hc hp =>
      have := consumeStart_facts w.strat (w.inp i)
      inv_auto
  | retire i hc hp =>
      have := consumeStart_facts w.strat (w.inp i)
      inv_auto
  | loadFlag i b hc hp hs hb => cases b <;> inv_auto
  | xchgFlag i hc hp hs => unfold doXchgFlag; split <;> inv_auto
  | setOut i o hc hp => inv_auto
  | load3 i x hc hp hs hx => unfold doLoad3; split <;> inv_auto
  | xchg3 i hc hp hs hv => unfold doXchg3; split <;> inv_auto
  | cas3 i hc hp hs hv => unfold doCas3; split <;> inv_auto
  | loadLf i d hc hp hs hd => cases d <;> inv_auto
  | xchgLf i hc hp hs hv => unfold doXchgLf; split <;> inv_auto
  | fsubLf i hc hp hs hv => unfold doFsubLf; split <;> inv_auto
  | dec i store hc hp =>
      have h1 := dtorStart_cases w.strat s.pValid
      unfold doDec; split
      · rcases h1 with h1 | h1 | h1 <;> simp only [h1.1] <;> inv_auto
      · inv_auto
  | dtorRel i j hc hp =>
      have hok := ok_in_dtorRel hI hp
      unfold doDtorRel; split <;> (try split) <;> (try split) <;> inv_auto
  | dtorSet i o hc hp ho => inv_auto
  | dtorThrow i hc hp ho =>
      exfalso
      cases hst : w.strat with
      | anyFF =>
          obtain ⟨_, e, _, hsv⟩ := saved_in_dtor hI.c hI.r hI.o (hI.g hst) hp
          simp [dtorOut, hst, hsv] at ho
      | _ => simp [dtorOut, hst] at ho
  | crash i hc hp => inv_auto

theorem invb_reachable {w s} (hwf : w.wf) (h : Reachable w s) : InvB w s := by
  induction h with
  | init => exact invb_init w
  | step hr hs ih => exact invb_step (inv_reachable hwf hr) ih hs

end Yaclib.When
