/- Preservation of `Inv` by every step, and `Inv` on all reachable states. -/
import YaclibModel.Proofs.CoSharedMutexStepR
import YaclibModel.Proofs.CoSharedMutexStepW
namespace Yaclib.CoSharedMutex

theorem inv_step {cfg s l s'} (hi : Inv cfg s) (hs : Step s l s') : Inv cfg s' := by
  cases hs with
  | rdFadd c h ht ho => exact inv_rdFadd hi c h ht ho
  | spinOk c k h hf => exact inv_spinOk hi c k h hf
  | spinBusy c k h hf => exact inv_spinBusy hi c k h hf
  | spinLoad c k sawFree h => exact inv_spinLoad hi c k sawFree h
  | rdUnlock c h hs => exact inv_rdUnlock hi c h hs
  | enterR c h => exact inv_enterR hi c h
  | enterW c h => exact inv_enterW hi c h
  | exitR c h => exact inv_exitR hi c h
  | exitW c h => exact inv_exitW hi c h
  | rdFsub c h => exact inv_rdFsub hi c h
  | rwFsub c h => exact inv_rwFsub hi c h
  | runFirst c n h hf => exact inv_runFirst hi c n h hf
  | trBegin c w r h ht ho => exact inv_trBegin hi c w r h ht ho
  | trFail c w r h hw => exact inv_trFail hi c w r h hw
  | trCasOk c r h hW hR => exact inv_trCasOk hi c r h hW hR
  | trCasFail c r h => exact inv_trCasFail hi c r h
  | twLoad c sawZero h ht ho => exact inv_twLoad hi c sawZero h ht ho
  | twCasOk c h hW hR => exact inv_twCasOk hi c h hW hR
  | twCasFail c h hne => exact inv_twCasFail hi c h hne
  | tryFailW c h => exact inv_tryFailW hi c h
  | wrFadd c h hs => exact inv_wrFadd hi c h hs
  | wrPost c r h hs => exact inv_wrPost hi c r h hs
  | wUnlock c k h hs => exact inv_wUnlock hi c k h hs
  | tailUnlock c hs => exact inv_tailUnlock hi c hs
  | wuCasOk c h hW hR => exact inv_wuCasOk hi c h hW hR
  | wuCasFail c h hne => exact inv_wuCasFail hi c h hne
  | wuFsub c h hs => exact inv_wuFsub hi c h hs
  | rwStore c sw h hs => exact inv_rwStore hi c sw h hs
  | uUnlockW c b n rest h hs hb hq => exact inv_uUnlockW hi c b n rest h hs hb hq
  | uUnlockP c b h hs hb => exact inv_uUnlockP hi c b h hs hb
  | runW c n h => exact inv_runW hi c n h
  | runR c n rest h ht => exact inv_runR hi c n rest h ht

theorem inv_reachable {cfg s} (h : Reachable cfg s) : Inv cfg s := by
  induction h with
  | init => exact inv_init cfg
  | step _ hs ih => exact inv_step ih hs

end Yaclib.CoSharedMutex
