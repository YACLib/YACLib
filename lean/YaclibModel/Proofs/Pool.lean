/- C08: helper definitions, list lemmas and the invariants of the FairThreadPool model (Model/Pool.lean).
   Preservation proofs: PoolInv.lean (`InvA`, `InvB`, `InvC`), PoolF.lean (`InvF`), PoolW.lean (`InvW`). -/
import YaclibModel.Model.Pool
import YaclibModel.Proofs.PoolBits

namespace Yaclib.Pool
open Yaclib.Extracted.PoolConsts

/-! ### classification of program counters -/

/-- the worker has popped a job and not yet subtracted it from the counter -/
def WPc.running : WPc → Bool
  | .calling _ => true | .relock => true | .held true => true | _ => false

def WPc.isHeld : WPc → Bool
  | .held _ => true | _ => false

def WPc.isCalling (j : JobId) : WPc → Bool
  | .calling j' => j' == j | _ => false

/-- the worker will look at the queue (under the mutex) before it parks or leaves -/
def WPc.active : WPc → Bool
  | .start => true | .held _ => true | .calling _ => true | .relock => true | .woken => true | _ => false

/-- the worker has decided to leave `Loop` -/
def WPc.gone : WPc → Bool
  | .stopping => true | .exited => true | _ => false

def Sub.isHeld (sb : Sub) : Bool := sb.pc == .held
def Sub.isNotifying (sb : Sub) : Bool := sb.pc == .notifying

/-- submitter `j.sub` is inside `Submit(j)` and has neither pushed nor dropped `j` yet -/
def inFlight (s : State) (j : JobId) : Nat :=
  match s.subs[j.sub]? with
  | some sb => if sb.k = j.seq ∧ (sb.pc = .want ∨ sb.pc = .held ∨ sb.pc = .dropping) then 1 else 0
  | none => 0

def pendOf : WPc → List JobId
  | .calling j => [j] | _ => []

attribute [grind ext] JobId

theorem nodup_snoc {α : Type} {l : List α} {a : α} (h : l.Nodup) (ha : a ∉ l) : (l ++ [a]).Nodup := by
  rw [List.nodup_append]
  refine ⟨h, by simp, ?_⟩
  intro x hx y hy
  simp at hy; subst hy
  intro e; subst e; exact ha hx

/-! ### list lemmas -/

theorem countP_set_get {α : Type} (p : α → Bool) {l : List α} {i : Nat} {a : α} (h : l[i]? = some a) (b : α) :
    (l.set i b).countP p + (if p a then 1 else 0) = l.countP p + (if p b then 1 else 0) := by
  induction l generalizing i with
  | nil => simp at h
  | cons x xs ih =>
      cases i with
      | zero =>
          simp at h; subst h
          simp only [List.set_cons_zero, List.countP_cons]; omega
      | succ i =>
          simp at h
          have := ih h
          simp only [List.set_cons_succ, List.countP_cons]; omega

theorem countP_pos_get {α : Type} (p : α → Bool) {l : List α} {i : Nat} {a : α} (h : l[i]? = some a) (hp : p a = true) :
    0 < l.countP p := by
  have hm : a ∈ l := List.mem_of_getElem? h
  exact List.countP_pos_iff.mpr ⟨a, hm, hp⟩

theorem mem_set_cases {α : Type} {l : List α} {i : Nat} {b x : α} (h : x ∈ l.set i b) : x = b ∨ x ∈ l := by
  rcases List.mem_or_eq_of_mem_set h with h | h
  · exact Or.inr h
  · exact Or.inl h

theorem mem_set_self' {α : Type} {l : List α} {i : Nat} {a b : α} (h : l[i]? = some a) : b ∈ l.set i b := by
  have hlt : i < l.length := by
    rcases List.getElem?_eq_some_iff.mp h with ⟨hlt, _⟩; exact hlt
  exact List.mem_set hlt b

theorem mem_set_of_ne {α : Type} {l : List α} {i : Nat} {a b x : α} (hx : x ∈ l) (h : l[i]? = some a) (hne : a ≠ x) :
    x ∈ l.set i b := by
  obtain ⟨k, hk⟩ := List.mem_iff_getElem?.mp hx
  have hik : i ≠ k := by
    intro e; subst e; rw [h] at hk; cases hk; exact hne rfl
  apply List.mem_iff_getElem?.mpr
  exact ⟨k, by rw [List.getElem?_set]; simp [hik, hk]⟩

theorem countP_all_pos {α : Type} (p : α → Bool) {l : List α} (h : ∀ x ∈ l, p x = true) (hne : 0 < l.length) :
    0 < l.countP p := by
  cases l with
  | nil => simp at hne
  | cons x xs => exact List.countP_pos_iff.mpr ⟨x, by simp, h x (by simp)⟩

theorem countP_map_wake (p : WPc → Bool) (hp : ∀ pc, p (wake pc) = p pc) (l : List WPc) :
    (l.map wake).countP p = l.countP p := by
  rw [List.countP_map]
  apply List.countP_congr
  intro x _
  simp [hp x]

theorem running_held (b : Bool) : (WPc.held b).running = b := by cases b <;> rfl
theorem running_wake (pc : WPc) : (wake pc).running = pc.running := by cases pc <;> rfl
theorem isHeld_wake (pc : WPc) : (wake pc).isHeld = pc.isHeld := by cases pc <;> rfl
theorem isCalling_wake (j : JobId) (pc : WPc) : (wake pc).isCalling j = pc.isCalling j := by cases pc <;> rfl
theorem gone_wake (pc : WPc) : (wake pc).gone = pc.gone := by cases pc <;> rfl

theorem parked_not_mem_wake (l : List WPc) : WPc.parked ∉ l.map wake := by
  intro h
  obtain ⟨pc, _, hpc⟩ := List.mem_map.mp h
  cases pc <;> simp [wake] at hpc

theorem mem_map_wake {l : List WPc} {pc : WPc} (h : pc ∈ l.map wake) : ∃ pc0 ∈ l, pc = wake pc0 := by
  obtain ⟨pc0, h0, h1⟩ := List.mem_map.mp h
  exact ⟨pc0, h0, h1.symm⟩

theorem active_wake_of_not_gone {pc : WPc} (h : pc.gone = false) : (wake pc).active = true := by
  cases pc <;> simp_all [wake, WPc.active, WPc.gone]

theorem active_of_not_gone_parked {pc : WPc} (h : pc.gone = false) (hp : pc ≠ .parked) : pc.active = true := by
  cases pc <;> simp_all [WPc.active, WPc.gone]

theorem eq_exited_wake {pc : WPc} (h : wake pc = .exited) : pc = .exited := by
  cases pc <;> simp_all [wake]

theorem dropPc_dropping {l l' : List JobId} (h : dropPc l = .dropping l') : l' = l ∧ l ≠ [] := by
  cases l with
  | nil => simp [dropPc] at h
  | cons a as => simp [dropPc] at h; subst h; simp

theorem dropPc_done {l : List JobId} (h : dropPc l = .done) : l = [] := by
  cases l with
  | nil => rfl
  | cons a as => simp [dropPc] at h

theorem dropPc_cases (l : List JobId) : (l = [] ∧ dropPc l = .done) ∨ (l ≠ [] ∧ dropPc l = .dropping l) := by
  cases l with
  | nil => left; simp [dropPc]
  | cons a as => right; simp [dropPc]

/-- pigeonhole for duplicate-free lists -/
theorem subset_of_nodup_length_le {α : Type} [DecidableEq α] {l1 l2 : List α} (h1 : l1.Nodup) (hs : ∀ x ∈ l1, x ∈ l2)
    (hl : l2.length ≤ l1.length) : ∀ x ∈ l2, x ∈ l1 := by
  induction l1 generalizing l2 with
  | nil =>
      intro x hx
      cases l2 with
      | nil => cases hx
      | cons y ys => simp at hl
  | cons a as ih =>
      intro x hx
      have ha : a ∈ l2 := hs a (by simp)
      have hnd := List.nodup_cons.mp h1
      by_cases hxa : x = a
      · subst hxa; simp
      · have hx' : x ∈ l2.erase a := (List.mem_erase_of_ne hxa).mpr hx
        have hs' : ∀ y ∈ as, y ∈ l2.erase a := by
          intro y hy
          have hya : y ≠ a := by intro e; subst e; exact hnd.1 hy
          exact (List.mem_erase_of_ne hya).mpr (hs y (by simp [hy]))
        have hl' : (l2.erase a).length ≤ as.length := by
          rw [List.length_erase_of_mem ha]; simp at hl; omega
        have := ih hnd.2 hs' hl' x hx'
        simp [this]

/-! ### the invariants -/

/-- counters, lock, stop bits -/
structure InvA (w : Workload) (s : State) : Prop where
  wlen : s.workers.length = w.workers
  kind_eq : s.kind = w.stop
  /-- `_jobs_count >> 2` = queued + running (+ what HardStop took away and never subtracts) -/
  cnt_jobs : s.cnt / 4 = s.queue.length + s.workers.countP WPc.running + s.stolen.length
  /-- the mutex is held by exactly the thread that is inside a critical section -/
  lock_cnt : s.workers.countP WPc.isHeld + s.subs.countP Sub.isHeld + (if s.xpc = .held then 1 else 0) =
    (if s.locked = true then 1 else 0)
  gone_was : ∀ pc ∈ s.workers, pc.gone = true → s.cnt % 2 = 1
  gone_queue : ∀ pc ∈ s.workers, pc.gone = true → s.queue = []
  x_pre : s.xpc = .idle ∨ s.xpc = .want ∨ s.xpc = .held → s.cnt % 4 = 0 ∧ s.stolen = [] ∧ s.kind ≠ none
  x_none : s.kind = none → s.xpc = .done ∧ s.cnt % 4 = 0 ∧ s.stolen = []
  x_na : s.xpc = .notifyAll → s.cnt % 2 = 1
  x_done : s.xpc = .done → s.kind ≠ none → s.cnt % 2 = 1 ∨ (s.kind = some .soft ∧ s.cnt / 2 % 2 = 1)
  x_drop : ∀ l, s.xpc = .dropping l → s.cnt % 2 = 1 ∧ s.kind = some .hard ∧ l ≠ []
  want_kind : s.cnt / 2 % 2 = 1 → s.kind = some .soft ∧ s.xpc = .done
  /-- SoftStop leaves the want bit only while a job is queued or running -/
  want_jobs : s.cnt / 2 % 2 = 1 → s.cnt % 2 = 0 → 1 ≤ s.cnt / 4
  stolen_kind : s.stolen ≠ [] → s.kind = some .hard ∧ s.cnt % 2 = 1
  wait_exited : s.waitReturned = true → ∀ pc ∈ s.workers, pc = .exited
  /-- `Submit` drops a job only if it saw the stop bit -/
  dropping_was : ∀ sb ∈ s.subs, sb.pc = .dropping → s.cnt % 2 = 1
  rejected_was : s.rejected ≠ [] → s.cnt % 2 = 1

/-- ghost histories -/
structure InvB (w : Workload) (s : State) : Prop where
  slen : s.subs.length = w.subs.length
  sub_wf : ∀ (i : Nat) (sb : Sub), s.subs[i]? = some sb → w.subs[i]? = some sb.total ∧ sb.k ≤ sb.total ∧ (sb.pc ≠ .idle → sb.k < sb.total)
  /-- FIFO: the accepted jobs in push order are the popped ones, then the queue, then what HardStop took -/
  acc_split : s.accepted = s.popped ++ s.queue ++ s.stolen
  sub_nodup : s.submitted.Nodup
  sub_bound : ∀ j ∈ s.submitted, ∀ sb : Sub, s.subs[j.sub]? = some sb → j.seq < sb.k ∨ (j.seq = sb.k ∧ sb.pc ≠ .idle)
  sub_all : ∀ (i : Nat) (sb : Sub), s.subs[i]? = some sb →
    (∀ k, k < sb.k → (⟨i, k⟩ : JobId) ∈ s.submitted) ∧ (sb.pc ≠ .idle → (⟨i, sb.k⟩ : JobId) ∈ s.submitted)
  /-- every submitted job is accepted, rejected or still inside `Submit` — exactly one of them -/
  sub_flight : ∀ j, s.submitted.count j = s.accepted.count j + s.rejected.count j + inFlight s j
  /-- every popped job has been Called or is about to be, by exactly one worker -/
  call_count : ∀ j, s.workers.countP (WPc.isCalling j) + s.started.count j = s.popped.count j
  hard_pre : s.xpc ≠ .done → (∀ l, s.xpc ≠ .dropping l) → s.hardDropped = []
  hard_drop : ∀ l, s.xpc = .dropping l → s.hardDropped ++ l = s.stolen
  hard_done : s.xpc = .done → s.hardDropped = s.stolen

/-- wake-ups are not lost -/
structure InvC (w : Workload) (s : State) : Prop where
  /-- once the stop bit is set and the `notify_all` that goes with it has been issued nobody is parked -/
  no_parked_after_stop : s.cnt % 2 = 1 → s.xpc ≠ .notifyAll → WPc.stopping ∉ s.workers → WPc.parked ∉ s.workers
  /-- a non-empty queue is watched: some worker is on its way to the queue, or a notification is still to come -/
  queue_watch : s.queue ≠ [] → 0 < w.workers →
    0 < s.workers.countP WPc.active + s.subs.countP Sub.isNotifying + (if s.xpc = .notifyAll then 1 else 0)

/-- with a single worker the Calls start in pop order -/
structure InvF (s : State) : Prop where
  fifo : ∀ pc, s.workers = [pc] → s.started ++ pendOf pc = s.popped

theorem invA_init (w : Workload) : InvA w (init w) := by
  have hr : List.countP WPc.running (List.replicate w.workers WPc.start) = 0 := by
    apply List.countP_eq_zero.mpr; intro a ha; rw [List.eq_of_mem_replicate ha]; simp [WPc.running]
  have hh : List.countP WPc.isHeld (List.replicate w.workers WPc.start) = 0 := by
    apply List.countP_eq_zero.mpr; intro a ha; rw [List.eq_of_mem_replicate ha]; simp [WPc.isHeld]
  have hs : List.countP Sub.isHeld (w.subs.map fun n => ({ pc := .idle, k := 0, total := n } : Sub)) = 0 := by
    apply List.countP_eq_zero.mpr; intro a ha
    obtain ⟨n, _, hn⟩ := List.mem_map.mp ha
    subst hn; simp [Sub.isHeld]
  rcases w with ⟨n, subs, stop⟩
  cases stop <;> constructor <;> simp [init, Bits.initCount_eq, WPc.gone, hr, hh, hs]

/-! ### proof automation -/

/-- turn the extracted bit predicates / updates into arithmetic -/
macro "bits_simp" : tactic =>
  `(tactic| try simp only [Bits.wasStop_eq, Bits.wantStop_eq, Bits.noJobs_eq, Bits.loopSub_eq, Bits.stopSet_eq, Bits.softWant_eq,
      Bits.submitAdd_eq, cntAfter, Bool.and_eq_true, Bool.and_eq_false_iff, decide_eq_true_eq, decide_eq_false_iff_not,
      Bool.false_eq_true, ↓reduceIte] at *)

theorem active_pos_of_no_parked {w : Workload} {s : State} (ha : InvA w s) (hq : s.queue ≠ [])
    (hn : WPc.parked ∉ s.workers) (hw : 0 < w.workers) : 0 < s.workers.countP WPc.active := by
  apply countP_all_pos
  · intro pc hpc
    apply active_of_not_gone_parked
    · cases hg : pc.gone with
      | false => rfl
      | true => exact absurd (ha.gone_queue pc hpc hg) hq
    · intro e; subst e; exact hn hpc
  · rw [ha.wlen]; exact hw

theorem active_pos_after_wake {w : Workload} {s : State} (ha : InvA w s) (hq : s.queue ≠ []) (hw : 0 < w.workers) :
    0 < (s.workers.map wake).countP WPc.active := by
  apply countP_all_pos
  · intro pc hpc
    obtain ⟨pc0, h0, h1⟩ := mem_map_wake hpc
    subst h1
    apply active_wake_of_not_gone
    cases hg : pc0.gone with
    | false => rfl
    | true => exact absurd (ha.gone_queue pc0 h0 hg) hq
  · rw [List.length_map, ha.wlen]; exact hw

theorem mem_workers {s : State} {i : Nat} {pc : WPc} (h : s.workers[i]? = some pc) : pc ∈ s.workers :=
  List.mem_of_getElem? h

/-- a worker that comes back from a Call is still counted in `_jobs_count`, next to everything queued: `loopSub` does
    not underflow, and what it leaves covers the queue -/
theorem held_counted {w : Workload} {s : State} {i : Nat} {b : Bool} (hi : InvA w s)
    (h : s.workers[i]? = some (.held b)) : b = true → s.queue.length + 1 ≤ s.cnt / 4 := by
  intro hb; subst hb
  have := hi.cnt_jobs
  have := countP_pos_get WPc.running h (running_held true)
  omega

/- Inside `Auto`, `grind` reads a folded invariant hypothesis as a source of facts.  Each clause is keyed on the field
   (or the quantified term) it constrains and is instantiated only in goals that mention it; what the acting thread
   contributes beyond that is stated in the step.  `countP_set_get` says what replacing the acting thread's program
   counter does to a count. -/
namespace Auto
scoped grind_pattern InvA.wlen => InvA w s, s.workers.length
scoped grind_pattern InvA.kind_eq => InvA w s, w.stop
scoped grind_pattern InvA.cnt_jobs => InvA w s, s.workers.countP WPc.running
scoped grind_pattern InvA.lock_cnt => InvA w s, s.workers.countP WPc.isHeld
scoped grind_pattern InvA.lock_cnt => InvA w s, s.subs.countP Sub.isHeld
scoped grind_pattern InvA.gone_was => InvA w s, pc ∈ s.workers, pc.gone
scoped grind_pattern InvA.gone_queue => InvA w s, pc ∈ s.workers, pc.gone
scoped grind_pattern InvA.x_pre => InvA w s, s.xpc, XPc.idle
scoped grind_pattern InvA.x_pre => InvA w s, s.xpc, XPc.want
scoped grind_pattern InvA.x_pre => InvA w s, s.xpc, XPc.held
scoped grind_pattern InvA.x_none => InvA w s, s.kind, (none : Option StopKind)
scoped grind_pattern InvA.x_na => InvA w s, s.xpc, XPc.notifyAll
scoped grind_pattern InvA.x_done => InvA w s, s.xpc, XPc.done
scoped grind_pattern InvA.want_kind => InvA w s, s.cnt
scoped grind_pattern InvA.want_jobs => InvA w s, s.cnt
scoped grind_pattern InvA.stolen_kind => InvA w s, s.stolen
scoped grind_pattern InvA.wait_exited => InvA w s, s.waitReturned, pc ∈ s.workers
scoped grind_pattern InvA.rejected_was => InvA w s, s.rejected
attribute [scoped grind →] InvA.x_drop InvA.dropping_was
scoped grind_pattern InvB.slen => InvB w s, s.subs.length
scoped grind_pattern InvB.sub_wf => InvB w s, s.subs[i]?, sb.total
scoped grind_pattern InvB.acc_split => InvB w s, s.accepted, s.popped
scoped grind_pattern InvB.sub_nodup => InvB w s, s.submitted.Nodup
scoped grind_pattern InvB.sub_bound => InvB w s, j ∈ s.submitted, s.subs[j.sub]?, some sb
scoped grind_pattern InvB.sub_all => InvB w s, s.subs[i]?, sb.k
scoped grind_pattern InvB.hard_pre => InvB w s, s.hardDropped
scoped grind_pattern InvB.hard_done => InvB w s, s.hardDropped
attribute [scoped grind →] InvB.hard_drop
attribute [scoped grind! .] InvB.sub_flight InvB.call_count
scoped grind_pattern InvC.no_parked_after_stop => InvC w s, WPc.parked ∈ s.workers
scoped grind_pattern InvC.queue_watch => InvC w s, s.workers.countP WPc.active
attribute [scoped grind] WPc.running WPc.isHeld WPc.gone WPc.active WPc.isCalling Sub.isHeld Sub.isNotifying cntAfter wake
  inFlight
attribute [scoped grind =] Bits.wasStop_eq Bits.wantStop_eq Bits.noJobs_eq Bits.loopSub_eq Bits.stopSet_eq Bits.softWant_eq
  Bits.submitAdd_eq gone_wake running_held
attribute [scoped grind =>] countP_set_get mem_set_of_ne
attribute [scoped grind →] mem_set_cases mem_workers eq_exited_wake
attribute [scoped grind ←] nodup_snoc
attribute [scoped grind .] dropPc_cases mem_map_wake
end Auto

/-- closes an invariant of the state after one step: the effect is unfolded once, each clause goes to `grind`
    (its solvers for rings, ordered fields, AC and orders are off: the clauses need linear integer arithmetic only) -/
macro "pool_close" : tactic =>
  `(tactic| ((try simp only [doSubmit, doSLock, doAccept, doReject, doSDrop, doNotifyNone, doNotifyOne, doWLock, doPop, doWStop,
      doWExit, doWWait, doCall, doWNotifyAll, doSpurious, doXLock, doXStop, doXSoftWant, doXHard, doXNotifyAll,
      doXDrop]); constructor <;> (try simp only [inFlight]) <;> grind -ring -linarith -ac -order))

end Yaclib.Pool
