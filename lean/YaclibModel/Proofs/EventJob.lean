/- Invariants of the C16 model, part 3: the life cycle of the waiter objects — every waiter is released at most once, the
   heap waiter of a timed wait is freed exactly once by whoever lets go last, nobody touches a waiter that is gone. -/
import YaclibModel.Proofs.EventTok

namespace Yaclib.Event

/-- the thread is inside the MutexEvent part of `Wait` / `TimedWait` on job `j` -/
def Pc.bphase : Pc → Option Nat
  | .bLock j | .bHeld j | .bAsleep j | .bTimedOut j | .bUnlockRet j _ => some j
  | _ => none

theorem Pc.bphase_owner {pc : Pc} {j : Nat} (h : pc.bphase = some j) : pc.owner = some j := by
  cases pc <;> simp_all [Pc.bphase, Pc.owner]

def JSt.inList : JSt → Bool
  | .fresh | .listed | .running => true
  | _ => false

structure InvJ (s : State) : Prop where
  j_out : ∀ j, s.njobs ≤ j → s.job j = {}
  j_own : ∀ t j, (s.thr t).pc.owner = some j → j < s.njobs ∧ (s.job j).owner = t ∧ (s.job j).odone = false
  j_tryL : ∀ t j, (s.thr t).pc = .tryL j →
    (s.job j).st = .fresh ∧ (s.job j).freed = false ∧ (s.job j).ready = false ∧ (s.job j).holder = none ∧
    ((s.job j).kind = .timed → (s.job j).oref = true)
  j_tryC : ∀ t j x, (s.thr t).pc = .tryC j x →
    (s.job j).st = .fresh ∧ (s.job j).freed = false ∧ (s.job j).ready = false ∧ (s.job j).holder = none ∧
    ((s.job j).kind = .timed → (s.job j).oref = true)
  j_res : ∀ t j, (s.thr t).pc = .resume j → (s.job j).st = .failed ∧ (s.job j).kind = .coro
  j_b : ∀ t j, (s.thr t).pc.bphase = some j → (s.job j).kind ≠ .coro ∧ (s.job j).st ≠ .fresh ∧ (s.job j).st ≠ .failed ∧
    (s.job j).freed = false ∧ ((s.job j).kind = .timed → (s.job j).oref = true)
  j_to : ∀ t j, (s.thr t).pc = .bTimedOut j → (s.job j).kind = .timed
  j_ret : ∀ t j b, (s.thr t).pc = .bUnlockRet j b → (s.job j).kind = .blocking → (s.job j).ready = true
  j_dec : ∀ t j b, (s.thr t).pc = .bDec j b → (s.job j).kind = .timed ∧ (s.job j).st ≠ .fresh ∧ (s.job j).st ≠ .failed ∧
    (s.job j).oref = true
  j_rep : ∀ t j b, (s.thr t).pc = .rep j b → (s.job j).kind ≠ .coro ∧ ((s.job j).kind = .timed → (s.job j).oref = false)
  -- the list and the run of `SetImpl`
  l_head : ∀ l, s.head = some l → l.Nodup ∧ ∀ j, j ∈ l → (s.job j).st = .listed
  l_run : ∀ t js b, (s.thr t).pc = .run js b → js ≠ [] ∧ js.Nodup ∧ ∀ j, j ∈ js → (s.job j).st = .running
  l_dec : ∀ t j rest, (s.thr t).pc = .runDec j rest → (s.job j).st = .running ∧ (s.job j).kind = .timed ∧ j ∉ rest ∧
    rest.Nodup ∧ ∀ k, k ∈ rest → (s.job k).st = .running
  l_runk : ∀ t j rest, (s.thr t).pc = .run (j :: rest) true → (s.job j).kind ≠ .coro ∧ (s.job j).holder = some t
  -- every waiter is released at most once
  r_nrel : ∀ j, (s.job j).nrel ≤ 1
  r_coro : ∀ j, (s.job j).kind = .coro →
    ((s.job j).nrel = 1 ↔ (s.job j).st = .called ∨ ((s.job j).st = .failed ∧ (s.job j).odone = true))
  r_block : ∀ j, (s.job j).kind ≠ .coro → (s.job j).nrel = 1 → (s.job j).odone = true
  -- the waiter's mutex
  m_hold : ∀ j t, (s.job j).holder = some t →
    (∃ rest, (s.thr t).pc = .run (j :: rest) true) ∨ (s.thr t).pc = .bHeld j ∨ ∃ b, (s.thr t).pc = .bUnlockRet j b
  m_held : ∀ t j, (s.thr t).pc = .bHeld j → (s.job j).holder = some t
  m_uret : ∀ t j b, (s.thr t).pc = .bUnlockRet j b → (s.job j).holder = some t
  -- the flag
  y_st : ∀ j, (s.job j).ready = true → (s.job j).kind ≠ .coro ∧ ((s.job j).st = .running ∨ (s.job j).st = .called)
  y_run : ∀ j, (s.job j).ready = true → (s.job j).st = .running → (s.job j).kind = .blocking →
    (s.job j).holder ≠ none ∧ ∀ t, (s.job j).holder = some t → ∃ rest, (s.thr t).pc = .run (j :: rest) true
  -- life time
  f_run : ∀ j, (s.job j).st = .listed ∨ (s.job j).st = .running → (s.job j).freed = false
  f_timed : ∀ j, (s.job j).kind = .timed → (s.job j).st ≠ .failed →
    (s.job j).refs = (if (s.job j).oref then 1 else 0) + (if (s.job j).st.inList then 1 else 0) ∧
    ((s.job j).freed = true ↔ (s.job j).refs = 0) ∧ (s.job j).nfree = (if (s.job j).freed then 1 else 0)
  f_failed : ∀ j, (s.job j).kind = .timed → (s.job j).st = .failed →
    (s.job j).freed = true ∧ (s.job j).nfree = 1 ∧ (s.job j).oref = false
  f_other : ∀ j, (s.job j).kind ≠ .timed → (s.job j).nfree = 0
  f_coro : ∀ j, (s.job j).kind = .coro → (s.job j).freed = false
  bad : s.bad = false

theorem invJ_init (w : Workload) : InvJ (init w) := by
  constructor <;> simp [init, JSt.inList] <;> intro t <;> split <;> simp [Pc.owner, Pc.bphase]

/-- the thread is in none of the phases the job invariant speaks of -/
def Pc.nojob : Pc → Bool
  | .idle | .xchgHead | .insReg .. | .insCas .. | .insSub _ | .cbSub | .rdy .. => true
  | _ => false

theorem updT_apply (f : Nat → Thr) (i j : Nat) (x : Thr) : updT f i x j = if j = i then x else f j := rfl
theorem updJ_apply (f : Nat → Job) (i j : Nat) (x : Job) : updJ f i x j = if j = i then x else f j := rfl

theorem Pc.nojob_owner {pc : Pc} (h : pc.nojob = true) : pc.owner = none ∧ pc.bphase = none := by
  cases pc <;> simp_all [Pc.nojob, Pc.owner, Pc.bphase]

theorem Pc.bphase_tryL (j : Nat) : (Pc.tryL j).bphase = none := rfl
theorem Pc.bphase_tryC (j : Nat) (x : Exp) : (Pc.tryC j x).bphase = none := rfl
theorem Pc.bphase_resume (j : Nat) : (Pc.resume j).bphase = none := rfl
theorem Pc.bphase_bDec (j : Nat) (b : Bool) : (Pc.bDec j b).bphase = none := rfl
theorem Pc.bphase_rep (j : Nat) (b : Bool) : (Pc.rep j b).bphase = none := rfl
theorem Pc.nojob_run (js : List Nat) (b : Bool) : (Pc.run js b).nojob = false := rfl
theorem Pc.nojob_runDec (j : Nat) (rest : List Nat) : (Pc.runDec j rest).nojob = false := rfl

-- `grind` sees the clauses of the job invariant at the terms they speak of.  `Pc.bphase` and `Pc.nojob` are evaluated at
-- constructors only, like `Pc.owner`; at the constructors not named here `bphase_owner` and `nojob_owner` decide
namespace Auto
attribute [scoped grind =] updT_apply updJ_apply JSt.inList List.nodup_cons Pc.bphase.eq_1 Pc.bphase.eq_2 Pc.bphase.eq_3
  Pc.bphase.eq_4 Pc.bphase.eq_5 Pc.nojob.eq_1 Pc.nojob.eq_2 Pc.nojob.eq_3 Pc.nojob.eq_4 Pc.nojob.eq_5 Pc.nojob.eq_6 Pc.nojob.eq_7
  Pc.bphase_tryL Pc.bphase_tryC Pc.bphase_resume Pc.bphase_bDec Pc.bphase_rep Pc.nojob_run Pc.nojob_runDec
attribute [scoped grind →] Pc.bphase_owner Pc.nojob_owner InvJ.bad InvJ.j_out InvJ.j_own InvJ.j_tryL InvJ.j_tryC InvJ.j_res InvJ.j_b InvJ.j_to
  InvJ.j_ret InvJ.j_dec InvJ.j_rep InvJ.l_head InvJ.l_run InvJ.l_dec InvJ.l_runk InvJ.r_coro InvJ.r_block InvJ.m_hold InvJ.m_held
  InvJ.m_uret InvJ.y_st InvJ.y_run InvJ.f_run InvJ.f_timed InvJ.f_failed InvJ.f_other InvJ.f_coro
attribute [scoped grind! .] InvJ.r_nrel
end Auto
open Auto

variable {s s' : State} {l : Label} {w : Workload}

/-- a step of a thread outside the phases the job invariant speaks of that touches no job -/
theorem InvJ.nojob (hi : InvJ s) {t : Nat} {x : Thr} {s' : State} (hthr : s'.thr = updT s.thr t x) (hjob : s'.job = s.job)
    (hnjobs : s'.njobs = s.njobs) (hhead : s'.head = s.head) (hbad : s'.bad = s.bad)
    (hold : (s.thr t).pc.nojob = true) (hnew : x.pc.nojob = true) : InvJ s' := by
  constructor <;> simp only [hthr, hjob, hnjobs, hhead, hbad]
  all_goals grind

theorem InvJ.owner_uniq (hi : InvJ s) {t j : Nat} (h : (s.thr t).pc.owner = some j) :
    ∀ t', (s.thr t').pc.owner = some j → t' = t := by
  intro t' h'
  have h1 := (hi.j_own t' j h').2.1
  have h2 := (hi.j_own t j h).2.1
  rw [h2] at h1; exact h1.symm

theorem updJ_self (f : Nat → Job) (i : Nat) : updJ f i (f i) = f := by
  funext k; simp only [updJ]; split <;> simp [*]

theorem Pc.bphase_cases {pc : Pc} {j : Nat} (h : pc.bphase = some j) :
    pc = .bLock j ∨ pc = .bHeld j ∨ pc = .bAsleep j ∨ pc = .bTimedOut j ∨ ∃ b, pc = .bUnlockRet j b := by
  cases pc <;> simp_all [Pc.bphase]

/-- what a step of the owner `t` of job `j` has to respect: `t` moves on inside its wait operation or ends it, and changes
    `j` only in what the thread inside `SetImpl` does not rely on (not the kind, not the flag, not a state other than
    `fresh`, not another thread's hold); the clauses of the job invariant at `t` and at `j` hold afterwards -/
structure OwnStep (s : State) (t j : Nat) (x : Thr) (jb : Job) : Prop where
  ho : (s.thr t).pc.owner = some j
  hx : x.pc.owner = some j ∨ x.pc.nojob = true
  kind : jb.kind = (s.job j).kind
  ready : jb.ready = (s.job j).ready
  st : (s.job j).st ≠ .fresh → jb.st = (s.job j).st
  run : jb.st = .running → (s.job j).st ≠ .fresh
  hold : ∀ t', t' ≠ t → (jb.holder = some t' ↔ (s.job j).holder = some t')
  j_own : x.pc.owner = some j → jb.owner = t ∧ jb.odone = false
  j_try : (x.pc = .tryL j ∨ ∃ y, x.pc = .tryC j y) →
    jb.st = .fresh ∧ jb.freed = false ∧ jb.ready = false ∧ jb.holder = none ∧ (jb.kind = .timed → jb.oref = true)
  j_res : x.pc = .resume j → jb.st = .failed ∧ jb.kind = .coro
  j_b : (x.pc = .bLock j ∨ x.pc = .bHeld j ∨ x.pc = .bAsleep j ∨ x.pc = .bTimedOut j ∨ ∃ b, x.pc = .bUnlockRet j b) →
    jb.kind ≠ .coro ∧ jb.st ≠ .fresh ∧ jb.st ≠ .failed ∧ jb.freed = false ∧ (jb.kind = .timed → jb.oref = true)
  j_to : x.pc = .bTimedOut j → jb.kind = .timed
  j_ret : ∀ b, x.pc = .bUnlockRet j b → jb.kind = .blocking → jb.ready = true
  j_dec : ∀ b, x.pc = .bDec j b → jb.kind = .timed ∧ jb.st ≠ .fresh ∧ jb.st ≠ .failed ∧ jb.oref = true
  j_rep : ∀ b, x.pc = .rep j b → jb.kind ≠ .coro ∧ (jb.kind = .timed → jb.oref = false)
  m_hold : jb.holder = some t ↔ (x.pc = .bHeld j ∨ ∃ b, x.pc = .bUnlockRet j b)
  r_nrel : jb.nrel ≤ 1
  r_coro : jb.kind = .coro → (jb.nrel = 1 ↔ jb.st = .called ∨ (jb.st = .failed ∧ jb.odone = true))
  r_block : jb.kind ≠ .coro → jb.nrel = 1 → jb.odone = true
  f_run : jb.st = .listed ∨ jb.st = .running → jb.freed = false
  f_timed : jb.kind = .timed → jb.st ≠ .failed →
    jb.refs = (if jb.oref then 1 else 0) + (if jb.st.inList then 1 else 0) ∧ (jb.freed = true ↔ jb.refs = 0) ∧
    jb.nfree = (if jb.freed then 1 else 0)
  f_failed : jb.kind = .timed → jb.st = .failed → jb.freed = true ∧ jb.nfree = 1 ∧ jb.oref = false
  f_other : jb.kind ≠ .timed → jb.nfree = 0
  f_coro : jb.kind = .coro → jb.freed = false

theorem InvJ.own (hi : InvJ s) {t j : Nat} {x : Thr} {jb : Job} {s' : State} (ha : OwnStep s t j x jb)
    (hthr : s'.thr = updT s.thr t x) (hjob : s'.job = updJ s.job j jb) (hnjobs : s'.njobs = s.njobs)
    (hhead : s'.head = s.head ∨ ∃ l, s.head = some l ∧ s'.head = some (j :: l) ∧ (s.job j).st = .fresh ∧ jb.st = .listed)
    (hbad : s'.bad = false) : InvJ s' := by
  have hlh : ∀ l, s'.head = some l → l.Nodup ∧ ∀ k, k ∈ l → (s'.job k).st = .listed := by
    have := ha.st
    rw [hjob]
    rcases hhead with hh | ⟨l, hl, hh, hf, hn⟩ <;> rw [hh]
    · grind
    · have := hi.l_head l hl; grind
  clear hhead
  constructor <;> simp only [hthr, hjob, hnjobs, hbad]
  case j_out => have := hi.j_own t j ha.ho; grind
  case j_own => have hu := hi.owner_uniq ha.ho; have := ha.ho; have := ha.hx; have := ha.j_own; grind
  case j_tryL => have hu := hi.owner_uniq ha.ho; have := ha.hx; have := ha.j_try; grind
  case j_tryC => have hu := hi.owner_uniq ha.ho; have := ha.hx; have := ha.j_try; grind
  case j_res => have hu := hi.owner_uniq ha.ho; have := ha.hx; have := ha.j_res; grind
  case j_b => have hu := hi.owner_uniq ha.ho; have := ha.ho; have := ha.hx; have := ha.j_b; have := @Pc.bphase_cases x.pc j; grind
  case j_to => have hu := hi.owner_uniq ha.ho; have := ha.hx; have := ha.j_to; grind
  case j_ret => have hu := hi.owner_uniq ha.ho; have := ha.hx; have := ha.j_ret; grind
  case j_dec => have hu := hi.owner_uniq ha.ho; have := ha.hx; have := ha.j_dec; grind
  case j_rep => have hu := hi.owner_uniq ha.ho; have := ha.hx; have := ha.j_rep; grind
  case l_head => exact hjob ▸ hlh
  case l_run =>
    intro t' js b h
    by_cases ht : t' = t
    · subst ht; rw [updT_same] at h; exact absurd ha.hx (by simp [h, Pc.owner, Pc.nojob])
    · rw [updT_other _ _ _ _ ht] at h; have := ha.st; grind
  case l_dec =>
    intro t' k rest h
    by_cases ht : t' = t
    · subst ht; rw [updT_same] at h; exact absurd ha.hx (by simp [h, Pc.owner, Pc.nojob])
    · rw [updT_other _ _ _ _ ht] at h; have := ha.st; have := ha.kind; grind
  case l_runk =>
    intro t' k rest h
    by_cases ht : t' = t
    · subst ht; rw [updT_same] at h; exact absurd ha.hx (by simp [h, Pc.owner, Pc.nojob])
    · rw [updT_other _ _ _ _ ht] at h; have := ha.kind; have := ha.hold t' ht; grind
  case r_nrel => have := ha.r_nrel; grind
  case r_coro => have := ha.r_coro; grind
  case r_block => have := ha.r_block; grind
  case m_hold =>
    intro k t' h
    by_cases ht : t' = t <;> by_cases hk : k = j
    · subst ht hk; rw [updJ_same] at h; rw [updT_same]; have := ha.m_hold; grind
    · subst ht; rw [updJ_other _ _ _ _ hk] at h
      have ho := ha.ho
      rcases hi.m_hold k t' h with ⟨r, hp⟩ | hp | ⟨b, hp⟩ <;> rw [hp] at ho <;> simp [Pc.owner] at ho <;> exact absurd ho hk
    · subst hk; rw [updJ_same] at h; rw [updT_other _ _ _ _ ht]; have := ha.hold t' ht; grind
    · rw [updJ_other _ _ _ _ hk] at h; rw [updT_other _ _ _ _ ht]; exact hi.m_hold k t' h
  case m_held => have hu := hi.owner_uniq ha.ho; have := ha.hx; have := ha.m_hold; grind
  case m_uret => have hu := hi.owner_uniq ha.ho; have := ha.hx; have := ha.m_hold; grind
  case y_st => have := ha.st; have := ha.kind; have := ha.ready; grind
  case y_run =>
    intro k hr hs hk
    by_cases hkj : k = j
    · subst hkj; rw [updJ_same] at hr hs hk ⊢
      have hst : (s.job k).st = .running := by rw [← ha.st (ha.run hs)]; exact hs
      obtain ⟨hne, hall⟩ := hi.y_run k (ha.ready ▸ hr) hst (ha.kind ▸ hk)
      cases hh : (s.job k).holder with
      | none => exact absurd hh hne
      | some t0 =>
        obtain ⟨rest, hp⟩ := hall t0 hh
        have ht0 : t0 ≠ t := by intro e; subst e; have := ha.ho; rw [hp] at this; cases this
        have hj := (ha.hold t0 ht0).2 hh
        refine ⟨by rw [hj]; simp, fun t' h' => ?_⟩
        rw [hj] at h'; cases h'; exact ⟨rest, by rw [updT_other _ _ _ _ ht0]; exact hp⟩
    · rw [updJ_other _ _ _ _ hkj] at hr hs hk ⊢
      obtain ⟨hne, hall⟩ := hi.y_run k hr hs hk
      refine ⟨hne, fun t' h' => ?_⟩
      obtain ⟨rest, hp⟩ := hall t' h'
      have ht' : t' ≠ t := by intro e; subst e; have := ha.ho; rw [hp] at this; cases this
      exact ⟨rest, by rw [updT_other _ _ _ _ ht']; exact hp⟩
  case f_run => have := ha.f_run; grind
  case f_timed => have := ha.f_timed; grind
  case f_failed => have := ha.f_failed; grind
  case f_other => have := ha.f_other; grind
  case f_coro => have := ha.f_coro; grind

/-- what a step of the thread `t` inside `SetImpl` on the job `j` in its hand has to respect, the mirror image of `OwnStep`:
    `t` stays inside `SetImpl` or ends it, and changes `j` only in what the owner does not rely on (not the kind, the owner
    or its reference; the flag only goes up; the state is `running` or `called`; not another thread's hold; freed only
    as the last holder of a reference); the clauses of the job invariant at `t` and at `j` hold afterwards -/
structure SetStep (s : State) (t j : Nat) (x : Thr) (jb : Job) : Prop where
  hpc : (∃ rest b, (s.thr t).pc = .run (j :: rest) b) ∨ ∃ rest, (s.thr t).pc = .runDec j rest
  hx : x.pc.setter = true ∨ x.pc.nojob = true
  kind : jb.kind = (s.job j).kind
  owner : jb.owner = (s.job j).owner
  odone : jb.odone = (s.job j).odone
  oref : jb.oref = (s.job j).oref
  st : jb.st = .running ∨ jb.st = .called
  ready : (s.job j).ready = true → jb.ready = true
  hold : ∀ t', t' ≠ t → (jb.holder = some t' ↔ (s.job j).holder = some t')
  freed : jb.freed = true → jb.kind = .timed ∧ jb.oref = false
  l_run : ∀ js b, x.pc = .run js b → js ≠ [] ∧ js.Nodup ∧ ∀ k, k ∈ js → (updJ s.job j jb k).st = .running
  l_dec : ∀ k rest, x.pc = .runDec k rest → (updJ s.job j jb k).st = .running ∧ (updJ s.job j jb k).kind = .timed ∧ k ∉ rest ∧
    rest.Nodup ∧ ∀ k', k' ∈ rest → (updJ s.job j jb k').st = .running
  l_runk : ∀ k rest, x.pc = .run (k :: rest) true → (updJ s.job j jb k).kind ≠ .coro ∧ (updJ s.job j jb k).holder = some t
  m_hold : jb.holder = some t → ∃ rest, x.pc = .run (j :: rest) true
  y_st : jb.ready = true → jb.kind ≠ .coro
  y_run : jb.ready = true → jb.st = .running → jb.kind = .blocking → jb.holder = some t
  r_nrel : jb.nrel ≤ 1
  r_coro : jb.kind = .coro → (jb.nrel = 1 ↔ jb.st = .called ∨ (jb.st = .failed ∧ jb.odone = true))
  r_block : jb.kind ≠ .coro → jb.nrel = 1 → jb.odone = true
  f_run : jb.st = .listed ∨ jb.st = .running → jb.freed = false
  f_timed : jb.kind = .timed → jb.st ≠ .failed →
    jb.refs = (if jb.oref then 1 else 0) + (if jb.st.inList then 1 else 0) ∧ (jb.freed = true ↔ jb.refs = 0) ∧
    jb.nfree = (if jb.freed then 1 else 0)
  f_failed : jb.kind = .timed → jb.st = .failed → jb.freed = true ∧ jb.nfree = 1 ∧ jb.oref = false
  f_other : jb.kind ≠ .timed → jb.nfree = 0
  f_coro : jb.kind = .coro → jb.freed = false

theorem InvJ.set (ht : InvT s) (hi : InvJ s) {t j : Nat} {x : Thr} {jb : Job} {s' : State} (ha : SetStep s t j x jb)
    (hthr : s'.thr = updT s.thr t x) (hjob : s'.job = updJ s.job j jb) (hnjobs : s'.njobs = s.njobs)
    (hhead : s'.head = s.head) (hbad : s'.bad = false) : InvJ s' := by
  have hx : x.pc.owner = none := by
    rcases ha.hx with h | h
    · cases hp : x.pc <;> simp_all [Pc.setter, Pc.owner]
    · exact (Pc.nojob_owner h).1
  have hset : (s.thr t).pc.setter = true := by rcases ha.hpc with ⟨r, b, h⟩ | ⟨r, h⟩ <;> simp [h, Pc.setter]
  have h1 : ∀ t', (s.thr t').pc.setter = true → t' = t := fun t' h => ht.t_one t' t h hset
  have hrun : (s.job j).st = .running := by
    rcases ha.hpc with ⟨r, b, h⟩ | ⟨r, h⟩
    · exact (hi.l_run t _ _ h).2.2 j (by simp)
    · exact (hi.l_dec t _ _ h).1
  constructor <;> simp only [hthr, hjob, hnjobs, hhead, hbad]
  case j_out => grind
  case j_own => have := ha.owner; have := ha.odone; grind
  case j_tryL => grind
  case j_tryC => grind
  case j_res => grind
  case j_b => have := ha.kind; have := ha.st; have := ha.freed; have := ha.oref; grind
  case j_to => have := ha.kind; grind
  case j_ret => have := ha.kind; have := ha.ready; grind
  case j_dec => have := ha.kind; have := ha.st; have := ha.oref; grind
  case j_rep => have := ha.kind; have := ha.oref; grind
  case l_head => grind
  case l_run => have := ha.l_run; grind
  case l_dec => have := ha.l_dec; grind
  case l_runk => have := ha.l_runk; grind
  case r_nrel => have := ha.r_nrel; grind
  case r_coro => have := ha.r_coro; grind
  case r_block => have := ha.r_block; grind
  case m_hold => have := ha.m_hold; have := ha.hold; have := ha.hpc; grind
  case m_held => have := ha.hold; grind
  case m_uret => have := ha.hold; grind
  case y_st => have := ha.y_st; have := ha.st; grind
  case y_run => have := ha.y_run; have := ha.m_hold; have := ha.hpc; grind
  case f_run => have := ha.f_run; grind
  case f_timed => have := ha.f_timed; grind
  case f_failed => have := ha.f_failed; grind
  case f_other => have := ha.f_other; grind
  case f_coro => have := ha.f_coro; grind

macro "j_nojob" hi:ident t:term:max h:ident : tactic => `(tactic|
  exact InvJ.nojob $hi (t := $t) rfl rfl rfl rfl rfl (by simp [$h:ident, Pc.nojob]) (by simp [Pc.nojob]))

theorem invJ_step_count (hi : InvJ s) (hs : Step s l s')
    (hl : (∃ t k o, l = .fadd t k o) ∨ (∃ t k o, l = .fsub t k o) ∨ (∃ t f x, l = .fLoad t f x) ∨ (∃ t f b, l = .fCas t f b) ∨
      (∃ t f o, l = .pXchg t f o) ∨ (∃ t f b, l = .rdy t f b)) : InvJ s' := by
  cases hs with
  | tAdd t k rest h hp => ev_unfold; j_nojob hi t h
  | tDone t k rest h hp => ev_unfold; split <;> j_nojob hi t h
  | tInsAdd t consume fs rest h hp hne => ev_unfold; j_nojob hi t h
  | tInsLoad t f rest c wc consume x h hx => ev_unfold; repeat' split
                                             all_goals j_nojob hi t h
  | tInsCasOk t f rest c wc consume h hw => ev_unfold; repeat' split
                                            all_goals j_nojob hi t h
  | tInsCasFail t f rest c wc consume h hw => ev_unfold; repeat' split
                                              all_goals j_nojob hi t h
  | tInsSub t k h => ev_unfold; split <;> j_nojob hi t h
  | tFulfil t f rest h hp => ev_unfold; split <;> j_nojob hi t h
  | tCbSub t f rest h hp => ev_unfold; split <;> j_nojob hi t h
  | tReadyLoad t f rest h hp => ev_unfold; j_nojob hi t h
  | tReady t f b c h => ev_unfold; j_nojob hi t h
  | _ => rcases hl with ⟨_, _, _, hl⟩ | ⟨_, _, _, hl⟩ | ⟨_, _, _, hl⟩ | ⟨_, _, _, hl⟩ | ⟨_, _, _, hl⟩ | ⟨_, _, _, hl⟩ <;> cases hl

end Yaclib.Event
