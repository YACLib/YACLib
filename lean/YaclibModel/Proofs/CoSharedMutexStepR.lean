/- `Inv` is preserved by the steps of readers (LockShared, TryLockShared, UnlockHereShared) and of the spinlock. -/
import YaclibModel.Proofs.CoSharedMutex
namespace Yaclib.CoSharedMutex
open Auto

/- An effect that branches at the top is restated field by field (`do…_eq`): a clause then meets the `if` only in
   the fields it reads, and the step is one pass over the clauses. -/
theorem doRdFadd_eq (s : State) (c : Cid) : doRdFadd s c =
    { s with R := s.R + 1, ar := if s.W = 0 then c :: s.ar else s.ar, ifl := if s.W = 0 then s.ifl else c :: s.ifl,
             pc := upd s.pc c (if s.W = 0 then .racq else .spinning .rd false) } := by
  by_cases hW : s.W = 0 <;> simp [doRdFadd, hW]

theorem inv_rdFadd {cfg : Cfg} {s : State} (hi : Inv cfg s) (c : Cid) (h : s.pc c = .idle) (ht : s.todo c ≠ []) (ho : curOp s c = .rd) :
    Inv cfg (doRdFadd s c) := by
  rw [doRdFadd_eq]; inv_auto

theorem inv_spinOk {cfg : Cfg} {s : State} (hi : Inv cfg s) (c : Cid) (k : SpinK) (h : s.pc c = .spinning k false) (hf : s.spin = .free) :
    Inv cfg (doSpinOk s c k) := by
  have hex := hi.l_excl c
  have hew := hi.l_ew_some c
  have h2w := hi.j2w c
  inv_auto

theorem inv_spinBusy {cfg : Cfg} {s : State} (hi : Inv cfg s) (c : Cid) (k : SpinK) (h : s.pc c = .spinning k false) (hf : s.spin ≠ .free) :
    Inv cfg ({ s with pc := upd s.pc c (.spinning k true) }) := by
  exact hi.move c (by cases k <;> simp [h, Pc.cls, Pc.isInRound]) (by cases k <;> simp [Pc.cls]) fun _ => hi.busy_todo c (by simp [h])

theorem inv_spinLoad {cfg : Cfg} {s : State} (hi : Inv cfg s) (c : Cid) (k : SpinK) (sawFree : Bool) (h : s.pc c = .spinning k true) :
    Inv cfg ({ s with pc := upd s.pc c (.spinning k (!sawFree)) }) := by
  exact hi.move c (by cases k <;> simp [h, Pc.cls, Pc.isInRound]) (by cases k <;> simp [Pc.cls]) fun _ => hi.busy_todo c (by simp [h])

/-- what `AwaitLockShared` knows under the spinlock: nobody is passing credits or enqueuing, `c` is in flight, and with no
    credit left a writer is counted -/
theorem rdUnlock_pre {cfg : Cfg} {s : State} (hi : Inv cfg s) (c : Cid) (h : s.pc c = .rLocked) (hs : s.spin = .held c) :
    s.pend = 0 ∧ s.enq = 0 ∧ s.ifl.count c = 1 ∧ (s.pass = 0 → s.W ≠ 0) ∧
      ∀ x sr, s.pc x ≠ .uUnl (.readersPass sr) ∧ s.pc x ≠ .uUnl (.passOnly sr) := by
  have hpb := pendBy_none_of_held hi hs (by rw [h]; rfl)
  have hc1 := hi.l_ifl c
  refine ⟨hi.pend_none hpb, hi.enq_zero hs (by simp [h]), by rw [hc1, h]; rfl, fun hp0 hW0 => ?_, fun x sr => ?_⟩
  · have := (hi.j1 hW0).1
    have := len_pos_of_count (c := c) (l := s.ifl) (by rw [hc1, h]; rfl)
    have := hi.pend_none hpb
    omega
  · constructor <;> intro hx <;> have := (hi.l_pend x).mp (by rw [hx]; rfl) <;> simp_all

theorem doRdUnlock_eq (s : State) (c : Cid) : doRdUnlock s c =
    { s with spin := .free, ifl := s.ifl.erase c, pass := s.pass - 1, ar := if s.pass ≠ 0 then c :: s.ar else s.ar,
             Q := if s.pass ≠ 0 then s.Q else if s.cfg.rfifo then s.Q ++ [c] else c :: s.Q,
             qsize := if s.pass ≠ 0 then s.qsize else s.qsize + 1,
             pc := upd s.pc c (if s.pass ≠ 0 then .racq else .rparked),
             parks := upd s.parks c (if s.pass ≠ 0 then s.parks c else s.parks c + 1) } := by
  by_cases hp : s.pass = 0 <;> simp [doRdUnlock, hp, upd_self]

theorem inv_rdUnlock {cfg : Cfg} {s : State} (hi : Inv cfg s) (c : Cid) (h : s.pc c = .rLocked) (hs : s.spin = .held c) :
    Inv cfg (doRdUnlock s c) := by
  have hpre := rdUnlock_pre hi c h hs
  rw [doRdUnlock_eq]; inv_auto

/-- the section is entered: a round begins, counted as an entry -/
theorem inv_enter {cfg : Cfg} {s : State} (hi : Inv cfg s) (c : Cid) {p : Pc}
    (h : p.cls = (s.pc c).cls ∧ p.cls ≠ 0 ∧ p.isInRound = true ∧ (s.pc c).isInRound = false ∧ s.pc c ≠ .idle) :
    Inv cfg (doEnter s c p) :=
  hi.turn c h.1 h.2.1 (fun x hx => ⟨rfl, by simp [upd, hx], rfl⟩) (fun _ => hi.busy_todo c h.2.2.2.2)
    (by simp [h.2.2.1, h.2.2.2.1, upd]; omega)

theorem inv_enterR {cfg : Cfg} {s : State} (hi : Inv cfg s) (c : Cid) (h : s.pc c = .racq) :
    Inv cfg (doEnter s c .rcs) :=
  inv_enter hi c (by simp [h, Pc.cls, Pc.isInRound])

theorem inv_enterW {cfg : Cfg} {s : State} (hi : Inv cfg s) (c : Cid) (h : s.pc c = .wacq) :
    Inv cfg (doEnter s c .wcs) :=
  inv_enter hi c (by simp [h, Pc.cls, Pc.isInRound])

theorem inv_exitR {cfg : Cfg} {s : State} (hi : Inv cfg s) (c : Cid) (h : s.pc c = .rcs) :
    Inv cfg ({ s with pc := upd s.pc c .rUn1 }) := by
  exact hi.move c (by simp [h, Pc.cls, Pc.isInRound]) (by simp [Pc.cls]) fun _ => hi.busy_todo c (by simp [h])

theorem inv_exitW {cfg : Cfg} {s : State} (hi : Inv cfg s) (c : Cid) (h : s.pc c = .wcs) :
    Inv cfg ({ s with pc := upd s.pc c .wUn0 }) := by
  exact hi.move c (by simp [h, Pc.cls, Pc.isInRound]) (by simp [Pc.cls]) fun _ => hi.busy_todo c (by simp [h])

theorem doRdFsub_eq (s : State) (c : Cid) : doRdFsub s c =
    { s with R := s.R - 1, ar := s.ar.erase c, lv := if s.W = 0 then s.lv else c :: s.lv,
             pc := upd s.pc c (if s.W = 0 then .idle else .rUn2),
             todo := upd s.todo c (if s.W = 0 then (s.todo c).tail else s.todo c) } := by
  by_cases hW : s.W = 0 <;> simp [doRdFsub, done, hW, upd_self]

theorem inv_rdFsub {cfg : Cfg} {s : State} (hi : Inv cfg s) (c : Cid) (h : s.pc c = .rUn1) :
    Inv cfg (doRdFsub s c) := by
  have har := hi.l_ar c
  have har0 := hi.ar_nil_of_counted (s := s)
  rw [doRdFsub_eq]; inv_auto

theorem doRwFsub_eq (s : State) (c : Cid) : doRwFsub s c =
    { s with rwait := s.rwait - 1, lv := s.lv.erase c, pc := upd s.pc c (if s.rwait = 1 then .rRun else .idle),
             pw := if s.rwait = 1 then (match s.pw with | .b n => .c n c | x => x) else s.pw,
             todo := upd s.todo c (if s.rwait = 1 then s.todo c else (s.todo c).tail) } := by
  by_cases h1 : s.rwait = 1 <;> simp [doRwFsub, done, h1, upd_self] <;> cases s.pw <;> rfl

theorem inv_rwFsub {cfg : Cfg} {s : State} (hi : Inv cfg s) (c : Cid) (h : s.pc c = .rUn2) :
    Inv cfg (doRwFsub s c) := by
  have hlv := hi.l_lv c
  rw [doRwFsub_eq]; inv_auto

theorem inv_runFirst {cfg : Cfg} {s : State} (hi : Inv cfg s) (c : Cid) (n : Cid) (h : s.pc c = .rRun) (hf : s.wfirst = some n) :
    Inv cfg (doRunFirst s c n) := by
  have hby := hi.pc_rRun c h
  obtain ⟨n', hpw⟩ := PW.cases_by hby
  have hn : n' = n := by
    have := hi.pw_first n' (by rw [hpw]; rfl)
    rw [hf] at this; exact (Option.some.inj this).symm
  subst hn
  have hpc := hi.pw_c n' c hpw
  inv_auto

theorem inv_trBegin {cfg : Cfg} {s : State} (hi : Inv cfg s) (c : Cid) (w r : Nat) (h : s.pc c = .idle) (ht : s.todo c ≠ []) (ho : curOp s c = .tryRd) :
    Inv cfg ({ s with pc := upd s.pc c (.trLoop w r) }) := by
  exact hi.move c (by simp [h, Pc.cls, Pc.isInRound]) (by simp [Pc.cls]) fun _ => ht

/-- a `Try*` form reports failure: the round is over, counted as a failure -/
theorem inv_tryFail {cfg : Cfg} {s : State} (hi : Inv cfg s) (c : Cid)
    (h : (s.pc c).cls = 1 ∧ (s.pc c).isInRound = false ∧ s.pc c ≠ .idle) : Inv cfg (doTryFail s c) := by
  have hl := length_pos_of_ne_nil (hi.busy_todo c h.2.2)
  exact hi.turn c (by rw [h.1]; rfl) (by decide) (fun x hx => ⟨by simp [done, upd, hx], rfl, by simp [upd, hx]⟩)
    (fun hne => absurd rfl hne) (by simp [h.2.1, done, upd, show Pc.idle.isInRound = false from rfl]; omega)

theorem inv_trFail {cfg : Cfg} {s : State} (hi : Inv cfg s) (c : Cid) (w r : Nat) (h : s.pc c = .trLoop w r) (hw : w ≠ 0) :
    Inv cfg (doTryFail s c) :=
  inv_tryFail hi c (by simp [h, Pc.cls, Pc.isInRound])

theorem inv_trCasOk {cfg : Cfg} {s : State} (hi : Inv cfg s) (c : Cid) (r : Nat) (h : s.pc c = .trLoop 0 r) (hW : s.W = 0) (hR : s.R = r) :
    Inv cfg (doTrCasOk s c) := by
  have hpwn := hi.pw_none_of_W0 hW
  inv_auto

theorem inv_trCasFail {cfg : Cfg} {s : State} (hi : Inv cfg s) (c : Cid) (r : Nat) (h : s.pc c = .trLoop 0 r) :
    Inv cfg ({ s with pc := upd s.pc c (.trLoop s.W s.R) }) := by
  exact hi.move c (by simp [h, Pc.cls, Pc.isInRound]) (by simp [Pc.cls]) fun _ => hi.busy_todo c (by simp [h])

theorem inv_tryFailW {cfg : Cfg} {s : State} (hi : Inv cfg s) (c : Cid) (h : s.pc c = .tryFailed) :
    Inv cfg (doTryFail s c) :=
  inv_tryFail hi c (by simp [h, Pc.cls, Pc.isInRound])

end Yaclib.CoSharedMutex
