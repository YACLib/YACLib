/- C08: with one worker, Calls start in pop order (= acceptance order, InvB.acc_split) -/
import YaclibModel.Proofs.Pool
namespace Yaclib.Pool
open Yaclib.Extracted.PoolConsts

theorem set_eq_singleton {α : Type} {l : List α} {i : Nat} {a b c : α} (h : l[i]? = some a) (he : l.set i b = [c]) :
    l = [a] ∧ c = b := by
  have hl : l.length = 1 := by
    have := congrArg List.length he
    simpa using this
  match l, hl with
  | [x], _ =>
      have hi : i = 0 := by
        rcases List.getElem?_eq_some_iff.mp h with ⟨hlt, _⟩
        simp at hlt; exact hlt
      subst hi
      simp at h he
      subst h
      exact ⟨rfl, he.symm⟩

theorem map_wake_eq_singleton {l : List WPc} {c : WPc} (he : l.map wake = [c]) : ∃ c0, l = [c0] ∧ c = wake c0 := by
  match l with
  | [] => simp at he
  | [x] => simp at he; exact ⟨x, rfl, he.symm⟩
  | x :: y :: r => simp at he

theorem pendOf_wake (pc : WPc) : pendOf (wake pc) = pendOf pc := by cases pc <;> rfl

namespace Auto
attribute [scoped grind →] InvF.fifo set_eq_singleton
attribute [scoped grind] pendOf
end Auto
open Auto

theorem invF_init (w : Workload) : InvF (init w) := by
  constructor
  intro pc h
  simp only [init] at *
  have : pc = .start := by
    have hm : pc ∈ List.replicate w.workers WPc.start := by rw [h]; simp
    exact List.eq_of_mem_replicate hm
  subst this; simp [pendOf]

theorem invF_step {s l s'} (hi : InvF s) (hs : Step s l s') : InvF s' := by
  cases hs with
  | sBegin i sb h hpc hk => pool_close
  | sLock i sb h hpc hl => pool_close
  | sAccept i sb h hpc hw => pool_close
  | sReject i sb h hpc hw => pool_close
  | sDrop i sb h hpc => pool_close
  | sNotifyNone i sb h hpc hn => pool_close
  | sNotifyOne i sb v h hpc hv => pool_close
  | wLock i pc h hpc hl => rcases hpc with rfl | rfl <;> pool_close
  | wRelock i h hl => pool_close
  | wCall i j h => pool_close
  | wSpurious i h => pool_close
  | wNotifyAll i h =>
      cases hi with
      | mk fifo =>
      constructor
      intro pc he
      simp only [doWNotifyAll] at he ⊢
      obtain ⟨c0, h0, h1⟩ := map_wake_eq_singleton he
      obtain ⟨h2, h3⟩ := set_eq_singleton h h0
      have := fifo _ h2
      subst h1 h3
      simpa [pendOf, wake] using this
  | wPop i b j rest h hq => pool_close
  | wStop i b h hq hc => pool_close
  | wExit i b h hq hc hw => pool_close
  | wWait i b h hq hc hw => pool_close
  | xBegin k h hk => pool_close
  | xLock h hl => pool_close
  | xStop h hk => pool_close
  | xSoftNow h hk hn => pool_close
  | xSoftWant h hk hn => pool_close
  | xHard h hk => pool_close
  | xNotifyAll h =>
      cases hi with
      | mk fifo =>
      constructor
      intro pc he
      simp only [doXNotifyAll] at he ⊢
      obtain ⟨c0, h0, h1⟩ := map_wake_eq_singleton he
      have := fifo _ h0
      subst h1
      simpa [pendOf_wake] using this
  | xDrop j rest h => pool_close
  | waitRet h hr => pool_close

end Yaclib.Pool
