/- C20: every client event preserves handle correspondence and the allocation bound. -/
import YaclibModel.Proofs.PipelineAlloc2

namespace Yaclib.Pipeline
open Yaclib.Extracted

theorem size_clientEv_mono (p : Prog) (h : Handle) (ev : Event) : p.size ≤ (clientEv (p, h) ev).1.size := by
  cases ev <;> cases h <;> simp only [clientEv] <;> try exact Nat.le_refl _
  all_goals first
    | (rw [size_attach]; omega)
    | (split
       · exact Nat.le_refl _
       · rw [size_attach]; omega)
    | exact Nat.le_refl _

theorem cinv_step (cfg : Cfg) (st : State) (p : Prog) (h : Handle) (ev : Event) (hinv : CInv st p h) :
    CInv (mech cfg st ev) (clientEv (p, h) ev).1 (clientEv (p, h) ev).2 := by
  have hmono := size_clientEv_mono p h ev
  obtain ⟨hh, hb⟩ := hinv
  obtain ⟨ctl, held, ended, got, result, crashed, g⟩ := st
  cases crashed with
  | true =>
    simp only [CBound, ite_true] at hb
    exact ⟨Or.inl (by simp [mech]), by simp only [mech, ite_true, CBound]; omega⟩
  | false =>
  cases hh with
  | inl hc => simp at hc
  | inr hh =>
  simp only [CBound, Bool.false_eq_true, ite_false] at hb
  simp only at hh
  unfold mech
  simp only [Bool.false_eq_true, ite_false]
  cases ctl with
  | idle => exact hh.elim
  | task src steps =>
    obtain ⟨h1, h2⟩ := hh
    subst h1 h2
    simp only at hb
    cases ev with
    | attach s =>
      cases hdm : s.mode.isDetach
      · simp only [clientEv, hdm, Bool.false_eq_true, ite_false]
        refine ⟨Or.inr ⟨rfl, rfl⟩, ?_⟩
        simp only [CBound, Bool.false_eq_true, ite_false, size_attach, innerSteps_append]
        rw [innerSteps, innerSteps]
        simp [G.allocCore, G.allocFunctor]
        omega
      · simp only [clientEv, hdm, ite_true]
        exact ⟨Or.inr ⟨rfl, rfl⟩, by simpa [CBound] using hb⟩
    | start sk =>
      simp only [clientEv]
      rw [started_eq]
      refine cinv_settle _ _ _ _ rfl ?_ ((allocClosed cfg).startLazy_post (p := (p.size, 0)) true none sk.ovr ?_)
      · cases hk : sk.holds
        · exact Or.inr ⟨by simp, rfl⟩
        · exact Or.inl ⟨by simp, rfl⟩
      · show g.cAlloc + innerSteps (overrideHead _ _) + 0 ≤ p.size
        rw [innerSteps_overrideHead]
        exact hb
    | src s lazy head => exact ⟨Or.inr ⟨rfl, rfl⟩, by simpa [CBound, clientEv] using hb⟩
    | set q => exact ⟨Or.inr ⟨rfl, rfl⟩, by simpa [CBound, clientEv] using hb⟩
    | call k => exact ⟨Or.inr ⟨rfl, rfl⟩, by simpa [CBound, clientEv] using hb⟩
    | dropFuture => exact ⟨Or.inr ⟨rfl, rfl⟩, by simpa [CBound, clientEv] using hb⟩
    | get => exact ⟨Or.inr ⟨rfl, rfl⟩, by simpa [CBound, clientEv] using hb⟩
  | future r inh =>
    obtain ⟨h1, h2⟩ := hh
    subst h1 h2
    simp only at hb
    cases ev with
    | attach s =>
      simp only [clientEv, Bool.not_true, Bool.false_eq_true, ite_false]
      have hacct : AllocOut (Prog.size { p with steps := p.steps ++ [s] }) 0 []
          (runSteps cfg [s] false false none r inh g.allocCore.allocFunctor) := by
        apply runSteps_alloc
        rw [size_attach, innerSteps, innerSteps]
        simp [G.allocCore, G.allocFunctor]
        omega
      cases hdm : s.mode.isDetach
      · simp only [Bool.false_eq_true, ite_false]
        exact cinv_settle _ _ _ _ rfl (Or.inl ⟨rfl, rfl⟩) hacct
      · simp only [ite_true]
        exact cinv_settle _ _ _ _ rfl (Or.inr ⟨rfl, rfl⟩) hacct
    | dropFuture => exact ⟨Or.inr (by simp [clientEv]), by simp [CBound, clientEv, G.freeCore]; omega⟩
    | get => exact ⟨Or.inr (by simp [clientEv]), by simp [CBound, clientEv, G.freeCore]; omega⟩
    | src s lazy head => exact ⟨Or.inr ⟨rfl, rfl⟩, by simpa [CBound, clientEv] using hb⟩
    | set q => exact ⟨Or.inr ⟨rfl, rfl⟩, by simpa [CBound, clientEv] using hb⟩
    | call k => exact ⟨Or.inr ⟨rfl, rfl⟩, by simpa [CBound, clientEv] using hb⟩
    | start sk => exact ⟨Or.inr ⟨rfl, rfl⟩, by simpa [CBound, clientEv] using hb⟩
  | pending t =>
    simp only at hb
    cases ev with
    | attach s =>
      cases hh with
      | inl h1 =>
        obtain ⟨a1, a2⟩ := h1
        subst a1 a2
        simp only [clientEv, Bool.not_true, Bool.false_eq_true, ite_false]
        refine ⟨Or.inr ?_, ?_⟩
        · cases hdm : s.mode.isDetach <;> simp
        · have : CBound ⟨.pending (t.attach s), true, ended, got, result, false, g.allocCore.allocFunctor⟩
              { p with steps := p.steps ++ [s] } := by
            simp only [CBound, Bool.false_eq_true, ite_false, size_attach, innerT_attach]
            simp [G.allocCore, G.allocFunctor]
            omega
          cases hdm : s.mode.isDetach <;> simpa [CBound] using this
      | inr h1 =>
        obtain ⟨a1, a2⟩ := h1
        subst a1 a2
        exact ⟨Or.inr (Or.inr ⟨rfl, rfl⟩), by simpa [CBound, clientEv] using hb⟩
    | set q =>
      simp only [clientEv]
      cases hw : t.wait with
      | job jid k jk => exact ⟨Or.inr hh, by simpa [CBound] using hb⟩
      | promise q' f =>
        simp only []
        by_cases hq : q = q'
        · simp only [hq, ite_true]
          exact cinv_settle _ _ _ _ rfl hh (resume_alloc cfg t none (g.markSet q') _ (by simpa using hb))
        · simp only [hq, ite_false]
          exact ⟨Or.inr hh, by simpa [CBound] using hb⟩
    | call k =>
      simp only [clientEv]
      cases hw : t.wait with
      | promise q' f => exact ⟨Or.inr hh, by simpa [CBound] using hb⟩
      | job jid k' jk =>
        simp only []
        by_cases hq : k = k'
        · simp only [hq, ite_true]
          exact cinv_settle _ _ _ _ rfl hh (resume_alloc cfg t (some k') g _ hb)
        · simp only [hq, ite_false]
          exact ⟨Or.inr hh, by simpa [CBound] using hb⟩
    | dropFuture =>
      cases hh with
      | inl h1 => obtain ⟨a1, a2⟩ := h1; subst a1 a2; exact ⟨Or.inr (Or.inr ⟨rfl, rfl⟩), by simpa [CBound, clientEv] using hb⟩
      | inr h1 => obtain ⟨a1, a2⟩ := h1; subst a1 a2; exact ⟨Or.inr (Or.inr ⟨rfl, rfl⟩), by simpa [CBound, clientEv] using hb⟩
    | get =>
      cases hh with
      | inl h1 => obtain ⟨a1, a2⟩ := h1; subst a1 a2; exact ⟨Or.inr (Or.inr ⟨rfl, rfl⟩), by simpa [CBound, clientEv] using hb⟩
      | inr h1 => obtain ⟨a1, a2⟩ := h1; subst a1 a2; exact ⟨Or.inr (Or.inr ⟨rfl, rfl⟩), by simpa [CBound, clientEv] using hb⟩
    | src s lazy head =>
      cases hh with
      | inl h1 => obtain ⟨a1, a2⟩ := h1; subst a1 a2; exact ⟨Or.inr (Or.inl ⟨rfl, rfl⟩), by simpa [CBound, clientEv] using hb⟩
      | inr h1 => obtain ⟨a1, a2⟩ := h1; subst a1 a2; exact ⟨Or.inr (Or.inr ⟨rfl, rfl⟩), by simpa [CBound, clientEv] using hb⟩
    | start sk =>
      cases hh with
      | inl h1 => obtain ⟨a1, a2⟩ := h1; subst a1 a2; exact ⟨Or.inr (Or.inl ⟨rfl, rfl⟩), by simpa [CBound, clientEv] using hb⟩
      | inr h1 => obtain ⟨a1, a2⟩ := h1; subst a1 a2; exact ⟨Or.inr (Or.inr ⟨rfl, rfl⟩), by simpa [CBound, clientEv] using hb⟩
  | gone =>
    subst hh
    simp only at hb
    cases ev <;> exact ⟨Or.inr rfl, by simpa [CBound, clientEv] using hb⟩

theorem cinv_src (cfg : Cfg) (s : Src) (lazy : Bool) (head : Option Step)
    (hwf : ((s == Src.unit) != head.isSome) = false) :
    CInv (mech cfg {} (.src s lazy head)) ⟨s, lazy, head.toList, none⟩ (if lazy then .task else .fut) := by
  simp only [mech, Bool.false_eq_true, ite_false, hwf]
  have hsz : Prog.size ⟨s, lazy, head.toList, none⟩ = srcCores s + head.toList.length + innerSteps head.toList := by
    simp only [Prog.size, sizeSteps_eq]; omega
  cases lazy with
  | true =>
    refine ⟨Or.inr ⟨rfl, rfl⟩, ?_⟩
    simp only [CBound, Bool.false_eq_true, ite_false, ite_true, hsz]
    simp [G.allocCore, G.allocFunctor]
  | false =>
    simp only [Bool.false_eq_true, ite_false]
    rw [started_eq]
    refine cinv_settle _ _ _ _ rfl (Or.inl ⟨rfl, rfl⟩) ((allocClosed cfg).afterStart_post (p := (_, 0)) false none ?_)
    show G.cAlloc _ + innerSteps _ + 0 ≤ Prog.size _
    rw [hsz]
    simp [G.allocCore, G.allocFunctor]

/-- **handle correspondence and the allocation bound hold after every list of client events** -/
theorem cinv_run (cfg : Cfg) : ∀ (evs : List Event),
    match client evs with
    | none => run cfg {} evs = {}
    | some (p, h) => CInv (run cfg {} evs) p h :=
  run_client cfg (cinv_step cfg) (cinv_src cfg)

end Yaclib.Pipeline
