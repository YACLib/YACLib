/-
C13 — Coroutines resume once, after the awaited event, with its outcome, where asked.

Property theorems about the model `Yaclib.Coro` (Model/Coro.lean): ONE coroutine (returning Future / Task / SharedFuture) with
an arbitrary program of co_awaits (every awaiter of the library, any number of awaited objects, unique / shared / Task, any
outcomes), against an environment that fulfils the awaited objects at any moment, registers any number of foreign callbacks on
SharedFutures that have other observers (= the other coroutines awaiting the same SharedFuture), swaps executors in cores it can
reach, and Calls or Drops every submitted job.  All interleavings at atomic-operation granularity, stale pre-check loads included.
(The executor swap D12 and the cancelling `~Task` D13 are repaired in /repo: 8ca0444, 2690a63.)
`w.WF`: the arity of each awaiter and no awaited object twice in one awaiter (API preconditions); `w.WFT`: Task awaiters await
Tasks.  Helper lemmas and the inductive invariants are in Proofs/Coro*.lean.
-/
import YaclibModel.Base.Run
import YaclibModel.Proofs.CoroProgress
import YaclibModel.Proofs.CoroMulti4
import YaclibModel.Proofs.CoroExec2
import YaclibModel.Proofs.StrandTowerInline
import YaclibModel.Proofs.StrandTowerManual
import YaclibModel.Proofs.PoolExecContract
import YaclibModel.Extracted.Kernels
import YaclibModel.Model.Skeletons

namespace Yaclib.Props.C13
open Yaclib.Coro

variable {w : Workload} {s : State}

/-- everything the trace validator accepts is a behaviour the theorems speak about -/
theorem validator_sound {l : Label} {s' : State} (h : Reachable w s) (hn : next s l = some s') : Reachable w s' :=
  .step h (next_sound hn)

/-! ### exactly once -/

/-- **each co_await resumes exactly once**: the resumption records are, in order, exactly the co_awaits completed so far
    (no co_await resumes twice, none that was passed is missing) -/
theorem resume_once (hwf : w.WF) (hwt : w.WFT) (h : Reachable w s) : s.resumed.map (·.k) = List.range s.k :=
  (full_reachable hwf hwt h).d.rec_idx

theorem resume_at_most_once (hwf : w.WF) (hwt : w.WFT) (h : Reachable w s) : (s.resumed.map (·.k)).Nodup := by
  rw [resume_once hwf hwt h]; exact List.nodup_range

theorem resume_record_is_program (hwf : w.WF) (hwt : w.WFT) (h : Reachable w s) :
    ∀ r ∈ s.resumed, w.prog[r.k]? = some r.op := (full_reachable hwf hwt h).d.rec_op

/-! ### only after what it awaited has happened -/

/-- **a coroutine is resumed only when every awaited object is complete** — for unique futures, Tasks and SharedFutures with
    any number of other awaiters, every awaiter kind.
    Until /repo commit c9c07bc (defect D3, `await_ready = !Empty()`) this was false for SharedFutures with several awaiters; the
    witness then was: `prog = [⟨.single, [0], true⟩]`, cell 0 shared with other observers,
    run `start; envPush 0; rdLoad .cbs; ready true; resume (some none) false` (resumed before the fulfilment, `await_resume` reads a
    Result that was never constructed); proved as `resume_after_all_complete_violated_witness` at the time. -/
theorem resume_after_all_complete (hwf : w.WF) (hwt : w.WFT) (h : Reachable w s) : ∀ r ∈ s.resumed, r.allDone = true :=
  (full_reachable hwf hwt h).d.rec_done

/-- the same at the level of the step: whenever `await_resume` runs — and whenever the coroutine is submitted to an executor or
    sits in its queue — the word of every awaited object is `result` and its Result is constructed and is the awaited one -/
theorem no_early_resume (hwf : w.WF) (hwt : w.WFT) (h : Reachable w s) (hd : decided s.pc = true) {op : Op} {rest : List Op}
    (ht : s.todo = op :: rest) : ∀ j ∈ op.cells, (s.word j).isResult = true ∧ s.stored j = some (w.cell j).res := by
  intro j hj
  have hf := full_reachable hwf hwt h
  have := hf.i.b.all_res hd op rest j ht hj
  exact ⟨this, by simp [State.stored, this, hf.i.a.hw]⟩

/-- `Await(fs…)` leaves the futures valid and ready: at the resumption every awaited word is `result` (and a `result` word of a
    future stays `result`: no step but the start of a Task writes a word that holds `result`) -/
theorem await_leaves_ready (hwf : w.WF) (hwt : w.WFT) (h : Reachable w s) {got : Option (Option Res)} {ad : Bool} {s' : State}
    (hs : Step s (.resume got ad) s') : ad = true ∧ ∀ op rest, s.todo = op :: rest → ∀ j ∈ op.cells, (s'.word j).isResult = true := by
  have hf := full_reachable hwf hwt h
  cases hs with
  | resume op rest c hp ht =>
      have hd : decided s.pc = true := by rw [hp]; rfl
      have hall : ∀ j, j ∈ op.cells → (s.word j).isResult = true := fun j hj => hf.i.b.all_res hd op rest j ht hj
      refine ⟨allDone_of_all_res hall, ?_⟩
      intro op' rest' ht' j hj
      rw [ht] at ht'; cases ht'
      simp only [doResume, State.word]
      exact hall j hj

/-! ### with its outcome -/

/-- **`await_resume` reads the awaited Result**: `co_await future / shared future / task` returns the value the awaited object was
    fulfilled with, or rethrows its failure -/
theorem resume_outcome (hwf : w.WF) (hwt : w.WFT) (h : Reachable w s) : ∀ r ∈ s.resumed, r.got = wantOf w r.op :=
  (full_reachable hwf hwt h).d.rec_got

/-- an awaited failure that the body does not catch ends the body (nothing else of the program runs) … -/
theorem escaped_failure_ends_body (hwf : w.WF) (hwt : w.WFT) (h : Reachable w s) :
    s.failed = s.resumed.any (Rec.escaped w) ∧ (s.failed = true → s.todo = []) :=
  ⟨(full_reachable hwf hwt h).d.failed_iff, (full_reachable hwf hwt h).d.failed_todo⟩

/-! ### where asked -/

/-- **resumption context**: On(e) / AwaitOn(e, …) resume by a Call of executor e; AwaitSticky(…) / Yield resume in place (nothing to
    wait for) or by a Call of an executor; `co_await future`, Await(…) and Tasks resume in place or inline in the thread that
    completed one of the awaited objects -/
theorem resume_context (hwf : w.WF) (hwt : w.WFT) (h : Reachable w s) :
    ∀ r ∈ s.resumed, r.op.kind ≠ .current → ctxOk r.op.kind r.ctx = true ∧ (∀ j, r.ctx = .cell j → j ∈ r.op.cells) :=
  fun r hr hk => ⟨(full_reachable hwf hwt h).d.rec_ctx r hr hk, (full_reachable hwf hwt h).d.rec_cell r hr⟩

theorem resume_on_named_executor (hwf : w.WF) (hwt : w.WFT) (h : Reachable w s) :
    ∀ r ∈ s.resumed, ∀ e, (r.op.kind = .on e ∨ r.op.kind = .multiOn e ∨ r.op.kind = .resched (some e)) →
      r.ctx = .exec e ∧ r.exAfter = e := by
  intro r hr e hk
  have hd := (full_reachable hwf hwt h).d
  have hc := hd.rec_ctx r hr (by rcases hk with h | h | h <;> rw [h] <;> simp)
  have hctx : r.ctx = .exec e := by
    rcases hk with h | h | h <;> rw [h] at hc <;> cases hcx : r.ctx <;> simp_all [ctxOk]
  refine ⟨hctx, ?_⟩
  have := hd.rec_named r hr (by rw [hctx]; simp) (by rcases hk with h | h | h <;> rw [h] <;> simp)
  rw [this]
  rcases hk with h | h | h <;> rw [h] <;> rfl

/-- **Sticky: the coroutine's own executor** — AwaitSticky(…) and Yield resume on the executor the coroutine had when the co_await
    started (or in place), and leave it unchanged -/
theorem resume_sticky_own_executor (hwf : w.WF) (hwt : w.WFT) (h : Reachable w s) :
    ∀ r ∈ s.resumed, ownKind r.op.kind = true → (r.ctx = .inl ∨ r.ctx = .exec r.exBefore) ∧ r.exAfter = r.exBefore :=
  (full_reachable hwf hwt h).d.rec_own

/-- every Submit goes to an executor the awaiter may use (the named one; any for the coroutine's own) -/
theorem submit_where_asked (hwf : w.WF) (hwt : w.WFT) (h : Reachable w s) :
    ∀ x ∈ s.submits, ∀ op, w.prog[x.1]? = some op → execOk op.kind x.2 = true := (full_reachable hwf hwt h).d.sub_ok

/-- **after a resumption by the thread that completed awaited object j** (`co_await future`, Await(…)) **the coroutine's executor is
    the one stored in that core** ("continue where the producer is") — for unique and shared cores, any number of other awaiters.
    (A Task may move to another executor while it runs; the awaiting coroutine then continues on that one: not constrained here.)
    Until /repo 8ca0444 this was false for SharedFutures with several awaiters (defect D12): `PromiseType::Here/Next(caller)` did
    `_executor = std::move(caller._executor)`, IntrusivePtr move-assignment is a Swap, and a shared core is the caller of every
    coroutine that awaits it, so the second one resumed received the executor the first one left there.  Only
    `executor_after_await_partial` (cores nobody else can reach) was provable; the witness `executor_after_await_violated_witness`
    was: `prog = [On(e1), Await(cell 0)]`, cell 0 shared with other observers, run `start; submit 1; exCall; resume; start; rdLoad
    .empty; ready false; regLoad 0 .empty; cas 0 .ok; pXchg 0; envSwap 0 2; fire 0 0; resume` ⇒ `exBefore = 1`, core's executor 0,
    `exAfter = 2`; harness scenario `coro cells=s/val:2/fib/0,u/val:1/pre/0,u/val:1/pre/0 execs=run,run n=2
    c0=future;1;0;val:7;resched:1:,multi:-:0+1,current:-: c1=future;1;0;val:7;resched:2:,multi:-:0+2,current:-:` (every schedule). -/
theorem executor_after_await (hwf : w.WF) (hwt : w.WFT) (h : Reachable w s) :
    ∀ r ∈ s.resumed, ∀ j, r.ctx = .cell j → (w.cell j).lazy = false → r.exAfter = (w.cell j).exec0 :=
  (full_reachable hwf hwt h).e.rec_cell_exec

/-- … and the awaited core keeps its executor: `Await(fs…)` does not write the futures' cores -/
theorem awaited_core_keeps_executor (hwf : w.WF) (hwt : w.WFT) (h : Reachable w s) :
    ∀ j, (w.cell j).lazy = false → (s.cells j).cexec = (w.cell j).exec0 :=
  (full_reachable hwf hwt h).e.cexec

/-! ### a Task that was only Await()ed -/

/-- **destroying a Task that already completed just releases it**: `~Task` takes the `Ready()` branch exactly when the word is
    `result`, and then writes neither the word nor the Result nor anything else of the awaited core (until /repo 2690a63, D13, it
    cancelled the finished Task: `StoreCallback` over the `result` word, `Drop` = `Store(StopTag)` over the live Result, a second
    `exchange`) -/
theorem completed_task_just_releases {j : Nat} {s' : State} (hs : Step s (.tdtor j) s') :
    (s.word j).isResult = true ∧ s'.cells = s.cells ∧ (∀ i, s'.stored i = s.stored i) ∧ s'.pc = s.pc ∧ s'.todo = s.todo ∧
    s'.tasksReleased = s.tasksReleased ++ [j] := by
  cases hs with
  | tdtor _ _ _ hr => exact ⟨hr, rfl, fun _ => rfl, rfl, rfl, rfl⟩

/-- … and right after `co_await Await(task)` / `co_await task` resumed, the Task is complete: its destructor is that step -/
theorem awaited_task_is_complete (hwf : w.WF) (hwt : w.WFT) (h : Reachable w s) {got : Option (Option Res)} {ad : Bool} {s' : State}
    (hs : Step s (.resume got ad) s') {op : Op} {rest : List Op} (ht : s.todo = op :: rest) (hk : op.kind = .task) :
    ∀ j ∈ op.cells, ∃ s'', Step s' (.tdtor j) s'' := by
  intro j hj
  have hf := full_reachable hwf hwt h
  have hres := (await_leaves_ready hwf hwt h hs).2 op rest ht j hj
  have hlazy := (wft_lazy hwt hf.i.a ht hj).mp hk
  have hw' : s'.w = w := by
    cases hs with
    | resume op' rest' c hp ht' => exact hf.i.a.hw
  have hpc : s'.pc = .idle := by
    cases hs with
    | resume op' rest' c hp ht' => rfl
  exact ⟨_, Step.tdtor s' j hpc (by rw [hw']; exact hlazy) hres⟩

/-! ### the coroutine's own Result -/

/-- the Result is published at most once … -/
theorem published_at_most_once (hwf : w.WF) (hwt : w.WFT) (h : Reachable w s) : s.published.length ≤ 1 := by
  have hd := (full_reachable hwf hwt h).d
  by_cases h1 : s.pc = .done ∨ s.pc = .gone
  · rw [(hd.done_res h1).2]; simp
  · by_cases h2 : s.pc = .fin
    · rw [(hd.fin_res h2).2]; simp
    · have : s.pc ≠ .fin ∧ s.pc ≠ .done ∧ s.pc ≠ .gone := ⟨h2, fun h => h1 (Or.inl h), fun h => h1 (Or.inr h)⟩
      rw [(hd.not_fin this).2.1]; simp

/-- … exactly once when the coroutine is over, and it is: StopError if the coroutine was dropped by a stopped executor, the
    Exception state if an awaited failure escaped or the body threw, the co_return value otherwise -/
theorem co_return_is_result (hwf : w.WF) (hwt : w.WFT) (h : Reachable w s) (hp : s.pc = .done ∨ s.pc = .gone) :
    s.published = [outcome s] ∧ s.result = some (outcome s) :=
  ⟨((full_reachable hwf hwt h).d.done_res hp).2, ((full_reachable hwf hwt h).d.done_res hp).1⟩

theorem co_return_value (hwf : w.WF) (hwt : w.WFT) (h : Reachable w s) (hp : s.pc = .done ∨ s.pc = .gone)
    (hd : s.dropped = false) (hf : s.failed = false) {n : Nat} (hr : w.ret = .val n) : s.published = [.val n] := by
  have := (co_return_is_result hwf hwt h hp).1
  have hw := (full_reachable hwf hwt h).i.a.hw
  simpa [outcome, finalRes, hd, hf, hw, hr] using this

theorem exception_is_result (hwf : w.WF) (hwt : w.WFT) (h : Reachable w s) (hp : s.pc = .done ∨ s.pc = .gone)
    (hd : s.dropped = false) (he : s.failed = true ∨ w.ret = .throws) : s.published = [.exc] := by
  have := (co_return_is_result hwf hwt h hp).1
  have hw := (full_reachable hwf hwt h).i.a.hw
  rcases he with he | he
  · simpa [outcome, finalRes, hd, he] using this
  · cases hf : s.failed <;> simpa [outcome, finalRes, hd, hf, hw, he] using this

/-- **a stopped executor**: a dropped coroutine is completed with StopError, is never resumed again (the co_await it was
    dropped in has no resumption record, its program is not continued), and nothing else is ever published -/
theorem stopped_executor_stop_error (hwf : w.WF) (hwt : w.WFT) (h : Reachable w s) (hd : s.dropped = true) :
    (s.pc = .fin ∨ s.pc = .done ∨ s.pc = .gone) ∧ s.result = some .err ∧ (∀ r ∈ s.published, r = .err) ∧
    s.k < w.prog.length ∧ (∀ r ∈ s.resumed, r.k < s.k) := by
  have hD := (full_reachable hwf hwt h).d
  have hpc : s.pc = .fin ∨ s.pc = .done ∨ s.pc = .gone := by
    by_cases h1 : s.pc = .fin
    · exact Or.inl h1
    · by_cases h2 : s.pc = .done
      · exact Or.inr (Or.inl h2)
      · by_cases h3 : s.pc = .gone
        · exact Or.inr (Or.inr h3)
        · have := (hD.not_fin ⟨h1, h2, h3⟩).2.2; rw [hd] at this; cases this
  have hout : outcome s = .err := by simp [outcome, hd]
  refine ⟨hpc, ?_, ?_, hD.drop_susp hd, ?_⟩
  · rcases hpc with h1 | h1 | h1
    · rw [(hD.fin_res h1).1, hout]
    · rw [(hD.done_res (Or.inl h1)).1, hout]
    · rw [(hD.done_res (Or.inr h1)).1, hout]
  · intro r hr
    rcases hpc with h1 | h1 | h1
    · rw [(hD.fin_res h1).2] at hr; cases hr
    · rw [(hD.done_res (Or.inl h1)).2, hout] at hr; simpa using hr
    · rw [(hD.done_res (Or.inr h1)).2, hout] at hr; simpa using hr
  · intro r hr
    have : r.k ∈ s.resumed.map (·.k) := List.mem_map.mpr ⟨r, hr, rfl⟩
    rw [hD.rec_idx] at this
    exact List.mem_range.mp this

/-! ### the frame and its locals -/

/-- **the frame is destroyed at most once, every local at most once; when the frame is gone every local was destroyed exactly
    once** (on the normal path by leaving the body, for a dropped coroutine together with the frame) -/
theorem frame_destroyed_once (hwf : w.WF) (hwt : w.WFT) (h : Reachable w s) :
    s.frameDestroyed ≤ 1 ∧ s.localDtors ≤ w.locals ∧ (s.pc = .gone → s.frameDestroyed = 1 ∧ s.localDtors = w.locals) ∧
    (s.frameDestroyed = 1 → s.pc = .gone) := by
  have hD := (full_reachable hwf hwt h).d
  have hfr := hD.frame
  have hl := hD.locals
  refine ⟨by rw [hfr]; split <;> omega, by omega, ?_, ?_⟩
  · intro hp; have := hD.gone_live hp; rw [hfr, hp]; simp; omega
  · intro h1; rw [hfr] at h1; split at h1 <;> simp_all

/-- the locals are alive as long as the body runs, and — for a coroutine that was dropped while suspended — until the frame goes -/
theorem locals_alive_while_running (hwf : w.WF) (hwt : w.WFT) (h : Reachable w s) (hp : inOp s.pc = true ∨ s.pc = .idle) :
    s.live = w.locals ∧ s.localDtors = 0 := by
  have hD := (full_reachable hwf hwt h).d
  have := hD.live_full hp
  have := hD.locals
  omega

/-! ### nothing is lost -/

/-- **quiescence**: in a state in which only the environment could still act (fulfil an awaited object, register a foreign
    callback, swap an executor) the coroutine is over, its Result published exactly once, frame and locals destroyed exactly once —
    or it is suspended, registered on an awaited object that has not been fulfilled yet (every Call / Drop, every callback of a
    fulfilled object, every step of the coroutine itself is a non-environment step, so none of them is outstanding). -/
theorem quiescent_complete (hwf : w.WF) (hwt : w.WFT) (h : Reachable w s) (hq : ∀ l s', Step s l s' → isEnv l = true) :
    (s.pc = .gone ∧ s.published = [outcome s] ∧ s.frameDestroyed = 1 ∧ s.localDtors = w.locals ∧
      (s.dropped = false → s.failed = false → s.resumed.map (·.k) = List.range w.prog.length)) ∨ Waiting s := by
  have hf := full_reachable hwf hwt h
  rcases quiescent_cases hwf hf hq with hg | hw
  · left
    have hfr := frame_destroyed_once hwf hwt h
    refine ⟨hg, (hf.d.done_res (Or.inr hg)).2, (hfr.2.2.1 hg).1, (hfr.2.2.1 hg).2, ?_⟩
    intro hd hfl
    -- the body was left with an empty to-do list and no escaped failure: the whole program was passed
    rw [hf.d.rec_idx]
    have ha := hf.i.a
    have htodo : s.todo = [] := hf.d.left_todo (Or.inr (Or.inr hg)) hd
    rcases ha.todo_eq with h1 | h1
    · rw [htodo] at h1
      have : w.prog.length ≤ s.k := List.drop_eq_nil_iff.mp h1.symm
      have hk := ha.k_le
      have : s.k = w.prog.length := by omega
      rw [this]
    · rw [hfl] at h1; cases h1.1
  · exact Or.inr hw

/-! ### non-vacuity: concrete workloads reach the interesting states -/

def w1 : Workload :=
  { prog := [⟨.single, [0], true⟩], cells := [{ res := .val 5 }], ret := .val 7, catches := false, locals := 1 }

/-- `co_await future` races with the fulfilment: the coroutine registers first, is resumed by the producer with the value,
    returns 7, its local and its frame are destroyed once -/
example : ∃ s, Reachable w1 s ∧ s.pc = .gone ∧ s.resumed.map (fun r => (r.k, r.ctx, r.got)) = [(0, .cell 0, some (some (.val 5)))] ∧
    s.published = [.val 7] ∧ s.frameDestroyed = 1 ∧ s.localDtors = 1 := by
  have h : Reachable w1 _ := runL_preserves (next := next) validator_sound .init
    [.start, .rdLoad .empty, .ready false, .regLoad 0 .empty, .cas 0 .ok, .pXchg 0, .fire 0 0,
     .resume (some (some (.val 5))) true, .ret, .ldtor, .publish (.val 7), .fdtor] rfl
  exact ⟨_, h, rfl, rfl, rfl, rfl, rfl⟩

def w2 : Workload :=
  { prog := [⟨.single, [0], true⟩], cells := [{ shared := true, others := true, res := .err }], ret := .val 7, catches := false,
    locals := 0 }

/-- several awaiters on one SharedFuture: another coroutine is registered already when this one checks `await_ready` (false since
    c9c07bc), it pushes its own callback, a third one registers, the fulfilment resumes this one with the failure, which escapes:
    the coroutine's Result is the Exception state -/
example : ∃ s, Reachable w2 s ∧ s.resumed.map (fun r => (r.allDone, r.got)) = [(true, some (some .err))] ∧ s.failed = true ∧
    s.published = [.exc] := by
  have h : Reachable w2 _ := runL_preserves (next := next) validator_sound .init
    [.start, .envPush 0, .rdLoad .cbs, .ready false, .regLoad 0 .cbs, .cas 0 .retry, .cas 0 .ok, .envPush 0, .pXchg 0,
     .fire 0 0, .resume (some (some .err)) true, .ret, .publish .exc] rfl
  exact ⟨_, h, rfl, rfl, rfl⟩

def w3 : Workload :=
  { prog := [⟨.on 1, [0], false⟩, ⟨.current, [], false⟩], cells := [{}], ret := .val 7, catches := false, locals := 2 }

/-- AwaitOn(e1, f) on a stopped executor: the callback submits the coroutine, e1 drops it: StopError, never resumed, both locals
    and the frame destroyed once -/
example : ∃ s, Reachable w3 s ∧ s.pc = .gone ∧ s.resumed = [] ∧ s.submits = [(0, 1)] ∧ s.published = [.err] ∧
    s.frameDestroyed = 1 ∧ s.localDtors = 2 := by
  have h : Reachable w3 _ := runL_preserves (next := next) validator_sound .init
    [.start, .regLoad 0 .empty, .cas 0 .ok, .pXchg 0, .fire 0 0, .submit 1, .exDrop, .publish .err, .ldtor, .ldtor,
     .fdtor] rfl
  exact ⟨_, h, rfl, rfl, rfl, rfl, rfl, rfl⟩

def w4 : Workload :=
  { prog := [⟨.multi, [0, 1], false⟩], cells := [{}, { res := .exc }], ret := .throws, catches := false, locals := 0 }

/-- Await(f0, f1): f0 completes between its registration and the registration of f1, f1 completes between its pre-check load
    and its CAS; the counter goes 3, 2 (callback of f0), 1 (`fetch_sub(n - wait_count)`), `await_ready` sees 1: no suspension -/
example : ∃ s, Reachable w4 s ∧ s.resumed.map (fun r => (r.ctx, r.allDone)) = [(.inl, true)] ∧ s.cnt = 1 ∧
    s.st = [.fired, .failed] := by
  have h : Reachable w4 _ := runL_preserves (next := next) validator_sound .init
    [.start, .regLoad 0 .empty, .cas 0 .ok, .pXchg 0, .fire 0 0, .regLoad 1 .empty, .pXchg 1, .cas 1 .fail, .msub,
     .mload 1, .ready true, .resume none true] rfl
  exact ⟨_, h, rfl, rfl, rfl⟩

end Yaclib.Props.C13

/-! ### several coroutines: the product system (Model/CoroMulti.lean)

The one-coroutine theorems above speak about ONE coroutine against an environment.  `Yaclib.CoroMulti` is the system of a finite
family of coroutines sharing the awaited objects (global words whose callbacks are tagged with their owner); a step of the system is
the step of one coroutine, or a fulfilment / external subscription / Task move.  `projection_sound` (Proofs/CoroMulti4.lean): every
projection of a reachable state of the system is a reachable state of the one-coroutine model, because a step of coroutine i is,
for every other coroutine k, an `envPush` of k's model or invisible (`other_step_is_env`).  The trace validator, which keeps one model
state per coroutine of a run and feeds every line to the projections it concerns, is the executable counterpart of that theorem.
So everything proved above holds for every coroutine of every run of the system: -/
namespace Yaclib.Props.C13.Multi
open Yaclib.Coro Yaclib.CoroMulti

/-- the hypotheses on a family: unique futures and Tasks have one owner, a Task is not shared; every member is well-formed -/
structure OK (W : MWorkload) : Prop where
  g : W.GWF
  wf : ∀ i, (W.proj i).WF
  wft : ∀ i, (W.proj i).WFT

variable {W : MWorkload} {S : MState}

theorem projection (hok : OK W) (h : MReachable W S) (i : Nat) : Reachable (W.proj i) (S.proj W i) :=
  projection_sound hok.g hok.wf hok.wft h i

theorem multi_resume_once (hok : OK W) (h : MReachable W S) (i : Nat) :
    (S.cor i).resumed.map (·.k) = List.range (S.cor i).k :=
  by have h1 := C13.resume_once (hok.wf i) (hok.wft i) (projection hok h i); exact h1

theorem multi_resume_after_all_complete (hok : OK W) (h : MReachable W S) (i : Nat) :
    ∀ r ∈ (S.cor i).resumed, r.allDone = true :=
  by have h1 := C13.resume_after_all_complete (hok.wf i) (hok.wft i) (projection hok h i); exact h1

theorem multi_resume_outcome (hok : OK W) (h : MReachable W S) (i : Nat) :
    ∀ r ∈ (S.cor i).resumed, r.got = wantOf (W.proj i) r.op :=
  by have h1 := C13.resume_outcome (hok.wf i) (hok.wft i) (projection hok h i); exact h1

theorem multi_resume_context (hok : OK W) (h : MReachable W S) (i : Nat) :
    ∀ r ∈ (S.cor i).resumed, r.op.kind ≠ .current → ctxOk r.op.kind r.ctx = true ∧ (∀ j, r.ctx = .cell j → j ∈ r.op.cells) :=
  by have h1 := C13.resume_context (hok.wf i) (hok.wft i) (projection hok h i); exact h1

theorem multi_executor_after_await (hok : OK W) (h : MReachable W S) (i : Nat) :
    ∀ r ∈ (S.cor i).resumed, ∀ j, r.ctx = .cell j → (W.gcell j).lazy = false → r.exAfter = (W.gcell j).exec0 := by
  intro r hr j hc hl
  have := C13.executor_after_await (hok.wf i) (hok.wft i) (projection hok h i) r hr j hc (by rw [proj_cell]; exact hl)
  rw [this, proj_cell]; rfl

theorem multi_published_at_most_once (hok : OK W) (h : MReachable W S) (i : Nat) : (S.cor i).published.length ≤ 1 :=
  by have h1 := C13.published_at_most_once (hok.wf i) (hok.wft i) (projection hok h i); exact h1

theorem multi_stopped_executor_stop_error (hok : OK W) (h : MReachable W S) (i : Nat) (hd : (S.cor i).dropped = true) :
    (S.cor i).result = some .err ∧ (∀ r ∈ (S.cor i).published, r = .err) ∧ (∀ r ∈ (S.cor i).resumed, r.k < (S.cor i).k) := by
  have := C13.stopped_executor_stop_error (hok.wf i) (hok.wft i) (projection hok h i) hd
  exact ⟨this.2.1, this.2.2.1, this.2.2.2.2⟩

theorem multi_frame_destroyed_once (hok : OK W) (h : MReachable W S) (i : Nat) :
    (S.cor i).frameDestroyed ≤ 1 ∧ (S.cor i).localDtors ≤ (W.co i).locals ∧
    ((S.cor i).pc = .gone → (S.cor i).frameDestroyed = 1 ∧ (S.cor i).localDtors = (W.co i).locals) := by
  have := C13.frame_destroyed_once (hok.wf i) (hok.wft i) (projection hok h i)
  exact ⟨this.1, this.2.1, this.2.2.1⟩

def isFulfilled (c : GCell) : Bool :=
  match c.word with
  | .gresult _ => true
  | .gopen _ _ => false

/-- **an awaited object that is not a Task is fulfilled once and for all**: no step of the system fulfils it again or un-fulfils it -/
theorem fulfilled_once (hok : OK W) (h : MReachable W S) {l : MLabel} {S' : MState} (hs : MStep W S l S') {j : Nat}
    (hl : (W.gcell j).lazy = false) (hf : isFulfilled (S.cells j) = true) :
    isFulfilled (S'.cells j) = true ∧ l ≠ .prod j := by
  cases hs with
  | prod j' cbs e hw hl' =>
      by_cases hjj : j = j'
      · subst hjj; simp [isFulfilled, hw] at hf
      · exact ⟨by simp only [gupd_other _ _ _ _ hjj]; exact hf, fun h => hjj (by cases h; rfl)⟩
  | ext j' cbs e hw hs' hx =>
      by_cases hjj : j = j'
      · subst hjj; simp [isFulfilled, hw] at hf
      · exact ⟨by simp only [gupd_other _ _ _ _ hjj]; exact hf, by simp⟩
  | swap j' e hl' hs' =>
      refine ⟨?_, by simp⟩
      by_cases hjj : j = j'
      · subst hjj; simp only [gupd_same]; exact hf
      · simp only [gupd_other _ _ _ _ hjj]; exact hf
  | co i l s' hi hl' hs' =>
      refine ⟨?_, by simp⟩
      have ha := (inv_reachable (hok.wf i) (projection hok h i)).a
      cases l with
      | cas p o =>
          cases o <;> simp only [gcellsAfter] <;> (try exact hf)
          cases hcur : curCell (S.cor i) p with
          | none => exact hf
          | some j' =>
            simp only
            by_cases hjj : j = j'
            · subst hjj
              simp only [gupd_same, isFulfilled, pushCb] at hf ⊢
              split at hf <;> simp_all
            · simp only [gupd_other _ _ _ _ hjj]; exact hf
      | fire j' p =>
          simp only [gcellsAfter]
          by_cases hjj : j = j'
          · subst hjj
            simp only [gupd_same, isFulfilled, eraseCb] at hf ⊢
            split at hf <;> simp_all
          · simp only [gupd_other _ _ _ _ hjj]; exact hf
      | tstore =>
          simp only [gcellsAfter]
          cases hcur : curCell (S.cor i) 0 with
          | none => exact hf
          | some j' =>
            simp only
            by_cases hjj : j = j'
            · -- a Task callback is stored only on a Task
              exfalso
              subst hjj
              cases hs' with
              | tstore op rest j'' hp ht hj =>
                  have hcur' : curCell (S.proj W i) 0 = some j := hcur
                  simp only [curCell, ht] at hcur'
                  rw [hj] at hcur'; cases hcur'
                  have hpk := ha.pc_kind op rest ht
                  rw [hp] at hpk
                  have hk : op.kind = .task := by simpa [pcKindOk] using hpk
                  have := (wft_lazy (hok.wft i) ha ht (List.mem_iff_getElem?.mpr ⟨0, hj⟩)).mp hk
                  rw [proj_cell] at this
                  have hlz : (W.gcell j).lazy = true := this
                  rw [hl] at hlz; cases hlz
            · simp only [gupd_other _ _ _ _ hjj]; exact hf
      | _ => exact hf

/-- **every awaiter of a SharedFuture is resumed exactly once, after its fulfilment**: for every coroutine of the family the
    resumption records are exactly the co_awaits it has passed (each once, none missing), and each was made when everything it
    awaited was fulfilled — which, for everything but Tasks, happens once and for all (`fulfilled_once`) -/
theorem shared_future_awaiters_each_once (hok : OK W) (h : MReachable W S) :
    ∀ i, (S.cor i).resumed.map (·.k) = List.range (S.cor i).k ∧ (∀ r ∈ (S.cor i).resumed, r.allDone = true) :=
  fun i => ⟨multi_resume_once hok h i, multi_resume_after_all_complete hok h i⟩

/-! non-vacuity: two coroutines `co_await Await(sf)` on one SharedFuture, driven through `next` of both projections -/

def W2 : MWorkload :=
  { n := 2, cells := [{ shared := true }],
    co := fun _ => { prog := [⟨.single, [0], false⟩], ret := .val 7, catches := false, locals := 0 } }

theorem mstep_co {i : Nat} {l : Label} {s' : State} (h : MReachable W S) (hi : i < W.n) (hl : isEnvL l = false)
    (hn : next (S.proj W i) l = some s') : MReachable W ⟨gcellsAfter S i l, cupd S.cor i s'⟩ :=
  .step h (.co S i l s' hi hl (next_sound hn))

/-- coroutine 0 registers; coroutine 1 finds a foreign callback (`await_ready` false since c9c07bc), registers behind it; the
    fulfilment runs both callbacks: both coroutines are resumed exactly once, after the fulfilment, and the word ends empty of
    callbacks -/
example : ∃ S, MReachable W2 S ∧ (S.cor 0).resumed.map (fun r => (r.k, r.allDone)) = [(0, true)] ∧
    (S.cor 1).resumed.map (fun r => (r.k, r.allDone)) = [(0, true)] ∧ (S.cells 0).word = .gresult [] := by
  have h0 : MReachable W2 (minit W2) := .init
  have h1 := mstep_co h0 (i := 0) (l := .start) (s' := _) (by decide) rfl rfl
  have h2 := mstep_co h1 (i := 0) (l := .rdLoad .empty) (s' := _) (by decide) rfl rfl
  have h3 := mstep_co h2 (i := 0) (l := .ready false) (s' := _) (by decide) rfl rfl
  have h4 := mstep_co h3 (i := 0) (l := .regLoad 0 .empty) (s' := _) (by decide) rfl rfl
  have h5 := mstep_co h4 (i := 0) (l := .cas 0 .ok) (s' := _) (by decide) rfl rfl
  have h6 := mstep_co h5 (i := 1) (l := .start) (s' := _) (by decide) rfl rfl
  have h7 := mstep_co h6 (i := 1) (l := .rdLoad .cbs) (s' := _) (by decide) rfl rfl
  have h8 := mstep_co h7 (i := 1) (l := .ready false) (s' := _) (by decide) rfl rfl
  have h9 := mstep_co h8 (i := 1) (l := .regLoad 0 .cbs) (s' := _) (by decide) rfl rfl
  have h10 := mstep_co h9 (i := 1) (l := .cas 0 .ok) (s' := _) (by decide) rfl rfl
  have h11 : MReachable W2 _ := .step h10 (.prod _ 0 [(1, 0), (0, 0)] false rfl (Or.inl rfl))
  have h12 := mstep_co h11 (i := 1) (l := .fire 0 0) (s' := _) (by decide) rfl rfl
  have h13 := mstep_co h12 (i := 1) (l := .resume none true) (s' := _) (by decide) rfl rfl
  have h14 := mstep_co h13 (i := 0) (l := .fire 0 0) (s' := _) (by decide) rfl rfl
  have h15 := mstep_co h14 (i := 0) (l := .resume none true) (s' := _) (by decide) rfl rfl
  exact ⟨_, h15, rfl, rfl, rfl⟩

theorem W2_ok : OK W2 := by
  refine ⟨⟨?_, ?_⟩, ?_, ?_⟩
  · intro j hs i k hi hk
    cases j with
    | zero => simp [W2, MWorkload.gcell] at hs
    | succ j => simp [W2, mentions] at hi
  · intro j hl
    cases j <;> simp [W2, MWorkload.gcell] at hl
  · intro i op hop
    simp [MWorkload.proj, W2] at hop; subst hop; simp [Op.wf]
  · intro i op hop j hj
    simp [MWorkload.proj, W2] at hop; subst hop
    simp at hj; subst hj
    simp [Workload.cell, MWorkload.proj, W2, MWorkload.cellW, MWorkload.gcell]

end Yaclib.Props.C13.Multi

/-! ### over a real executor (Proofs/CoroExec*.lean)

One named executor `ex` of the workload is an executor *model* `E` (`Yaclib.Strand.Exec`: Inline, Manual, the thread pool, a tower of
strands …) instead of an abstract contract executor; the other executor ids stay abstract.  `submit ex` = `sub j`, the resumption =
`call j` (the coroutine's next segment is the body of job j, `ret j` when the segment is over), `E`'s `drop j` = the model's Drop. -/
namespace Yaclib.Props.C13.Over
open Yaclib.Coro
open Yaclib.Strand (Exec XEv Prot Phase ExecContract inlineExec inline_contract manualExec manual_contract tower
  tower_satisfies_contract)
open Yaclib.Pool (poolExec pool_contract)

variable {w : Workload} {E : Exec} {ex : Nat} {s : XState E}

/-- for EVERY executor model: the coroutine component is a reachable state of the plain model, and the coroutine is a
    protocol-honouring client of `E` (submits a job once, returns only from a body that was entered) -/
theorem projects (h : XReach w E ex s) : Reachable w s.m ∧ E.Run s.x s.p := xcoro_projects h

theorem resume_once_over (hwf : w.WF) (hwt : w.WFT) (h : XReach w E ex s) : s.m.resumed.map (·.k) = List.range s.m.k :=
  C13.resume_once hwf hwt (xcoro_projects h).1

theorem resume_after_all_complete_over (hwf : w.WF) (hwt : w.WFT) (h : XReach w E ex s) : ∀ r ∈ s.m.resumed, r.allDone = true :=
  C13.resume_after_all_complete hwf hwt (xcoro_projects h).1

theorem frame_destroyed_once_over (hwf : w.WF) (hwt : w.WFT) (h : XReach w E ex s) :
    s.m.frameDestroyed ≤ 1 ∧ s.m.localDtors ≤ w.locals ∧ (s.m.pc = .gone → s.m.frameDestroyed = 1 ∧ s.m.localDtors = w.locals) := by
  have := C13.frame_destroyed_once hwf hwt (xcoro_projects h).1
  exact ⟨this.1, this.2.1, this.2.2.1⟩

/-- **"Resumption happens on the executor the awaiter names", with a real executor**: whenever the coroutine is being resumed by
    `ex` (the segment after On(ex) / AwaitOn(ex, …) / a Yield or sticky resumption on ex) it runs inside a `call` of `E` — the newest
    job of the coroutine is in phase `calling` — and the record of that resumption says so (`ctx = exec ex`) -/
theorem resume_on_named_executor_over (hwf : w.WF) (h : XReach w E ex s) (hp : s.m.pc = .wake (.exec ex)) :
    ∃ j rest, s.calls = j :: rest ∧ s.p j = .calling := by
  have hi := xinv_reach hwf h
  obtain ⟨j, rest, hc⟩ := hi.wake hp
  exact ⟨j, rest, hc, hi.calls_p j (by rw [hc]; exact List.mem_cons_self)⟩

/-- the only `call`s / `drop`s of `E` concern the job the coroutine sits in the queue with -/
theorem executor_acts_on_the_submitted_job (hwf : w.WF) (h : XReach w E ex s) :
    (∀ a, s.p a = .pending → s.job = some a ∧ s.m.pc = .queued ex) ∧ (∀ a, s.p a = .calling → a ∈ s.calls) := by
  have hi := xinv_reach hwf h
  exact ⟨fun a ha => ⟨hi.owner_p a ha, hi.job_q.mpr (by rw [hi.owner_p a ha]; exact fun h => nomatch h)⟩, hi.owner_c⟩

/-- **a Drop of the real executor is the model's Drop**: the step completes the coroutine with StopError; from then on
    `stopped_executor_stop_error` applies (never resumed again, nothing else published, frame and live locals destroyed once) -/
theorem dropped_means_stop_error_over {s' : XState E} (hs : XStep E ex s .drop s') :
    s'.m.dropped = true ∧ s'.m.result = some .err ∧ s'.m.pc = .fin ∧ s'.job = none := by
  cases hs with
  | drop hst _ _ _ _ =>
      cases hst with
      | exDrop e h => exact ⟨rfl, rfl, rfl, rfl⟩

theorem stopped_executor_stop_error_over (hwf : w.WF) (hwt : w.WFT) (h : XReach w E ex s) (hd : s.m.dropped = true) :
    s.m.result = some .err ∧ (∀ r ∈ s.m.published, r = .err) ∧ (∀ r ∈ s.m.resumed, r.k < s.m.k) := by
  have := C13.stopped_executor_stop_error hwf hwt (xcoro_projects h).1 hd
  exact ⟨this.2.1, this.2.2.1, this.2.2.2.2⟩

/-- only the coroutine's environment can still act: no step of the coroutine, no event and no internal step of `E` -/
def XQuiet (E : Exec) (ex : Nat) (s : XState E) : Prop :=
  ∀ xl s', XStep E ex s xl s' → ∃ l, xl = .plain l ∧ isEnv l = true

/-- nothing is pending or running in `E`, and the coroutine is over (Result published once, frame and locals destroyed once, the
    whole program resumed unless dropped / failed) or suspended on an unfulfilled object -/
def QuietDone (w : Workload) {E : Exec} (s : XState E) : Prop :=
  (∀ a, s.p a ≠ .pending ∧ s.p a ≠ .calling) ∧
  ((s.m.pc = .gone ∧ s.m.published = [outcome s.m] ∧ s.m.frameDestroyed = 1 ∧ s.m.localDtors = w.locals ∧
    (s.m.dropped = false → s.m.failed = false → s.m.resumed.map (·.k) = List.range w.prog.length)) ∨ Waiting s.m)

/-- **quiescence over a real executor** (under `ExecContract E`): a quiet composed system has nothing pending in `E`, and
    `quiescent_complete` holds for the coroutine -/
theorem quiescent_complete_over (hwf : w.WF) (hwt : w.WFT) (hc : ExecContract E) (h : XReach w E ex s) (hq : XQuiet E ex s) :
    QuietDone w s := by
  have hx := xcoro_quiescent hwf hwt hc h hq
  exact ⟨hx.2, C13.quiescent_complete hwf hwt (xcoro_projects h).1 hx.1⟩

/-! instances: the library's executors -/

theorem quiescent_over_inline (alive : Bool) (hwf : w.WF) (hwt : w.WFT) {s : XState (inlineExec alive)}
    (h : XReach w (inlineExec alive) ex s) (hq : XQuiet (inlineExec alive) ex s) : QuietDone w s :=
  quiescent_complete_over hwf hwt (inline_contract alive) h hq

theorem quiescent_over_manual (hwf : w.WF) (hwt : w.WFT) {s : XState (manualExec false)}
    (h : XReach w (manualExec false) ex s) (hq : XQuiet (manualExec false) ex s) : QuietDone w s :=
  quiescent_complete_over hwf hwt manual_contract h hq

theorem quiescent_over_pool {n : Nat} (hn : 0 < n) (stop : Option Yaclib.Pool.StopKind) (spur : Bool) (hwf : w.WF) (hwt : w.WFT)
    {s : XState (poolExec n stop spur)} (h : XReach w (poolExec n stop spur) ex s) (hq : XQuiet (poolExec n stop spur) ex s) :
    QuietDone w s :=
  quiescent_complete_over hwf hwt (pool_contract hn stop spur) h hq

theorem quiescent_over_tower {base : Exec} (hb : ExecContract base) (n : Nat) (hwf : w.WF) (hwt : w.WFT)
    {s : XState (tower base n)} (h : XReach w (tower base n) ex s) (hq : XQuiet (tower base n) ex s) : QuietDone w s :=
  quiescent_complete_over hwf hwt (tower_satisfies_contract hb n) h hq

/-! non-vacuity: `co_await On(e1)` over the STOPPED inline executor `MakeInline(StopTag{})`: sub 0, drop 0, StopError -/

def wOn : Workload := { prog := [⟨.resched (some 1), [], false⟩], cells := [], ret := .val 7, catches := false, locals := 1 }

example : ∃ s : XState (inlineExec false), XReach wOn (inlineExec false) 1 s ∧ s.m.dropped = true ∧ s.m.result = some .err ∧
    s.m.resumed = [] ∧ s.p 0 = .finished ∧ s.job = none := by
  have h0 : XReach wOn (inlineExec false) 1 (xinit wOn _) := .init
  have h1 := XReach.step h0 (.plain (l := .start) (m' := _) (next_sound rfl) rfl)
  have e1 : (inlineExec false).step Yaclib.Strand.protInit (XEv.sub 0) (Yaclib.Strand.upd Yaclib.Strand.protInit 0 .pending) :=
    ⟨rfl, rfl⟩
  have h2 := XReach.step h1 (.sub (m' := _) (next_sound rfl) e1 rfl rfl)
  have e2 : (inlineExec false).step (Yaclib.Strand.upd Yaclib.Strand.protInit 0 .pending) (XEv.drop 0)
      (Yaclib.Strand.upd (Yaclib.Strand.upd Yaclib.Strand.protInit 0 .pending) 0 .finished) := ⟨rfl, rfl, rfl⟩
  have h3 := XReach.step h2 (.drop (j := 0) (m' := _) (next_sound rfl) rfl rfl e2 rfl)
  exact ⟨_, h3, rfl, rfl, rfl, rfl, rfl⟩

end Yaclib.Props.C13.Over

/-! ### tie to the source (T2): the kernels this model was written from are unchanged.
`Extracted/Kernels.lean` is regenerated from /repo on every check run. -/
namespace Yaclib.Props.C13.Tie
open Yaclib

theorem tie_Destroy_await_suspend : Extracted.Kernels.Destroy_await_suspend = Skeletons.Destroy_await_suspend := rfl
theorem tie_PromiseType_initial_suspend : Extracted.Kernels.PromiseType_initial_suspend = Skeletons.PromiseType_initial_suspend := rfl
theorem tie_PromiseType_unhandled_exception : Extracted.Kernels.PromiseType_unhandled_exception = Skeletons.PromiseType_unhandled_exception := rfl
theorem tie_PromiseType_return_value : Extracted.Kernels.PromiseType_return_value = Skeletons.PromiseType_return_value := rfl
theorem tie_PromiseType_Call : Extracted.Kernels.PromiseType_Call = Skeletons.PromiseType_Call := rfl
theorem tie_PromiseType_Drop : Extracted.Kernels.PromiseType_Drop = Skeletons.PromiseType_Drop := rfl
theorem tie_PromiseType_Impl : Extracted.Kernels.PromiseType_Impl = Skeletons.PromiseType_Impl := rfl
theorem tie_PromiseType_Here : Extracted.Kernels.PromiseType_Here = Skeletons.PromiseType_Here := rfl
theorem tie_PromiseType_Next : Extracted.Kernels.PromiseType_Next = Skeletons.PromiseType_Next := rfl
theorem tie_PromiseTypeDeleter_Delete : Extracted.Kernels.PromiseTypeDeleter_Delete = Skeletons.PromiseTypeDeleter_Delete := rfl
theorem tie_AwaitAwaiterBase_await_ready : Extracted.Kernels.AwaitAwaiterBase_await_ready = Skeletons.AwaitAwaiterBase_await_ready := rfl
theorem tie_AwaitAwaiter_await_suspend : Extracted.Kernels.AwaitAwaiter_await_suspend = Skeletons.AwaitAwaiter_await_suspend := rfl
theorem tie_AwaitAwaiter_Call : Extracted.Kernels.AwaitAwaiter_Call = Skeletons.AwaitAwaiter_Call := rfl
theorem tie_AwaitEvent_Impl : Extracted.Kernels.AwaitEvent_Impl = Skeletons.AwaitEvent_Impl := rfl
theorem tie_MultiAwaitAwaiter_await_ready : Extracted.Kernels.MultiAwaitAwaiter_await_ready = Skeletons.MultiAwaitAwaiter_await_ready := rfl
theorem tie_MultiAwaitAwaiter_await_suspend : Extracted.Kernels.MultiAwaitAwaiter_await_suspend = Skeletons.MultiAwaitAwaiter_await_suspend := rfl
theorem tie_AwaitSingleAwaiter_await_ready : Extracted.Kernels.AwaitSingleAwaiter_await_ready = Skeletons.AwaitSingleAwaiter_await_ready := rfl
theorem tie_AwaitSingleAwaiter_await_suspend : Extracted.Kernels.AwaitSingleAwaiter_await_suspend = Skeletons.AwaitSingleAwaiter_await_suspend := rfl
theorem tie_AwaitSingleAwaiter_await_resume_unique : Extracted.Kernels.AwaitSingleAwaiter_await_resume_unique = Skeletons.AwaitSingleAwaiter_await_resume_unique := rfl
theorem tie_AwaitSingleAwaiter_await_resume_shared : Extracted.Kernels.AwaitSingleAwaiter_await_resume_shared = Skeletons.AwaitSingleAwaiter_await_resume_shared := rfl
theorem tie_TransferAwaiter_await_suspend : Extracted.Kernels.TransferAwaiter_await_suspend = Skeletons.TransferAwaiter_await_suspend := rfl
theorem tie_TransferSingleAwaiter_await_suspend : Extracted.Kernels.TransferSingleAwaiter_await_suspend = Skeletons.TransferSingleAwaiter_await_suspend := rfl
theorem tie_TransferSingleAwaiter_await_resume : Extracted.Kernels.TransferSingleAwaiter_await_resume = Skeletons.TransferSingleAwaiter_await_resume := rfl
theorem tie_AwaitOnEvent_Impl : Extracted.Kernels.AwaitOnEvent_Impl = Skeletons.AwaitOnEvent_Impl := rfl
theorem tie_AwaitOnAwaiter_await_suspend : Extracted.Kernels.AwaitOnAwaiter_await_suspend = Skeletons.AwaitOnAwaiter_await_suspend := rfl
theorem tie_MultiAwaitOnAwaiter_await_suspend : Extracted.Kernels.MultiAwaitOnAwaiter_await_suspend = Skeletons.MultiAwaitOnAwaiter_await_suspend := rfl
theorem tie_OnAwaiter_await_suspend : Extracted.Kernels.OnAwaiter_await_suspend = Skeletons.OnAwaiter_await_suspend := rfl
theorem tie_Yield_await_suspend : Extracted.Kernels.Yield_await_suspend = Skeletons.Yield_await_suspend := rfl
theorem tie_CurrentAwaiter_await_suspend : Extracted.Kernels.CurrentAwaiter_await_suspend = Skeletons.CurrentAwaiter_await_suspend := rfl
theorem tie_CurrentAwaiter_await_resume : Extracted.Kernels.CurrentAwaiter_await_resume = Skeletons.CurrentAwaiter_await_resume := rfl
theorem tie_SetCallbacksStatic : Extracted.Kernels.SetCallbacksStatic = Skeletons.SetCallbacksStatic := rfl
theorem tie_SetCallbacksDynamic : Extracted.Kernels.SetCallbacksDynamic = Skeletons.SetCallbacksDynamic := rfl
theorem tie_EventHelperCallback_Here : Extracted.Kernels.EventHelperCallback_Here = Skeletons.EventHelperCallback_Here := rfl
theorem tie_AtomicCounter_SubEqual : Extracted.Kernels.AtomicCounter_SubEqual = Skeletons.AtomicCounter_SubEqual := rfl
theorem tie_BaseCore_Ready : Extracted.Kernels.BaseCore_Ready = Skeletons.BaseCore_Ready := rfl
theorem tie_BaseCore_SetCallbackImpl : Extracted.Kernels.BaseCore_SetCallbackImpl = Skeletons.BaseCore_SetCallbackImpl := rfl
theorem tie_BaseCore_SetResultImpl : Extracted.Kernels.BaseCore_SetResultImpl = Skeletons.BaseCore_SetResultImpl := rfl
theorem tie_Task_dtor : Extracted.Kernels.Task_dtor = Skeletons.Task_dtor := rfl
theorem tie_Task_Cancel : Extracted.Kernels.Task_Cancel = Skeletons.Task_Cancel := rfl
theorem tie_PromiseCore_Here : Extracted.Kernels.PromiseCore_Here = Skeletons.PromiseCore_Here := rfl

end Yaclib.Props.C13.Tie
