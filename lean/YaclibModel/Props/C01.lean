/-
C01 — A fulfilled Promise is delivered to its Future exactly once, intact.

Property theorems about the model `Yaclib.Unique` (Model/Unique.lean), for **every** workload
(producer kind × any list of non-consuming consumer operations × consuming operation), every
interleaving of the two threads at atomic-operation granularity, and every admissible stale read.
Helper lemmas and the inductive invariants are in Proofs/Unique*.lean.
-/
import YaclibModel.Base.Run
import YaclibModel.Proofs.UniqueProgress
import YaclibModel.Extracted.Kernels
import YaclibModel.Model.Skeletons

namespace Yaclib.Props.C01
open Yaclib.Unique

variable {w : Workload} {s : State}

/-- a continuation is invoked at most once … -/
theorem delivered_le_one (h : Reachable w s) : s.delivered.length ≤ 1 := by
  rcases (inv_reachable h).delivered_one with h0 | h1
  · simp [h0]
  · omega

/-- … with exactly the Result that was set (`StopError` if the Promise was dropped unset) -/
theorem delivered_eq_set (h : Reachable w s) : ∀ x ∈ s.delivered, x.2 = w.prod.res :=
  (inv_reachable h).delivered_val

theorem dropped_promise_delivers_stop_error (h : Reachable w s) (hd : w.prod = .drop) :
    ∀ x ∈ s.delivered, x.2 = .err := by
  intro x hx; rw [delivered_eq_set h x hx, hd]; rfl

/-- never early, never torn (at the interleaving level): whenever a continuation body starts, the word is
    `result`, the storage is constructed and holds the promised Result, and that is what the body receives -/
theorem no_early_delivery (h : Reachable w s) {t : Tid} {r : Res} {s' : State} (hs : Step s (.invoke t r) s') :
    s.word = .result ∧ s.stored = some r ∧ r = w.prod.res := by
  have hi := inv_reachable h
  have key : s.stored = some r → s.word = .result ∧ s.stored = some r ∧ r = w.prod.res :=
    fun hr => ⟨(hi.stored_val r hr).2, hr, (hi.stored_val r hr).1⟩
  cases hs with
  | pInvoke _ _ _ hr => exact key hr
  | pInvokeSub _ _ hr => exact key hr
  | cInvoke _ _ _ hr => exact key hr
  | cInvokeSub _ _ hr => exact key hr

/-- `Ready() == true` is reported only while the Result can be read -/
theorem ready_sound (h : Reachable w s) : ∀ x ∈ s.readyObs, x.1 = true → x.2 = true :=
  (inv_reachable h).ready_obs

/-- `Get() const&` returns nullptr or the promised Result -/
theorem getc_sound (h : Reachable w s) : ∀ o ∈ s.getcObs, o = none ∨ o = some w.prod.res :=
  (inv_reachable h).getc_obs

/-- `Get() &&` returns the promised Result, once -/
theorem get_returns_set (h : Reachable w s) : ∀ r ∈ s.got, r = w.prod.res := (inv_reachable h).got_val

theorem get_at_most_once (h : Reachable w s) : s.got.length ≤ 1 := by
  rcases (inv_reachable h).got_one with h0 | h1
  · simp [h0]
  · omega

/-- `Connect` forwards the promised Result -/
theorem forwarded_eq_set (h : Reachable w s) : ∀ x ∈ s.forwarded, x.2 = w.prod.res := (inv_reachable h).fwd_val

/-- nothing runs if the Future was dropped (and, generally, only the outcome the consumer asked for can happen) -/
theorem dropped_future_runs_nothing (h : Reachable w s) (hd : w.fin = .drop) :
    s.delivered = [] ∧ s.got = [] ∧ s.forwarded = [] := by
  have h2 := inv2_reachable h
  exact ⟨h2.only_deliver (by simp [hd]), h2.only_got (by simp [hd]), h2.only_fwd (by simp [hd])⟩

/-- the outcome the consumer asked for (continuation run / Get returned / target fulfilled / core released)
    never happens twice … -/
theorem outcome_at_most_once (h : Reachable w s) : outcomeCount w s ≤ 1 := by
  have := (inv2_reachable h).conserve
  omega

/-- … and is never lost: in every state in which no thread can take a step both threads have finished and
    the outcome has happened exactly once.  (Safety form of "no completion is ever lost".) -/
theorem quiescent_complete (h : Reachable w s) (hq : ∀ l s', ¬ Step s l s') :
    s.ppc = .done ∧ s.cpc = .idle ∧ s.todo = [] ∧ outcomeCount w s = 1 := by
  have hi := inv_reachable h
  have hp := producer_done_of_quiescent hi hq
  have hc := consumer_done_of_quiescent hi hq
  refine ⟨hp, hc.1, hc.2, ?_⟩
  have hcons := (inv2_reachable h).conserve
  have hword : s.word = .result := by
    cases hwd : s.word with
    | result => rfl
    | empty => have := hi.start_iff.mpr (by rw [hwd]; simp); rw [hp] at this; cases this
    | cb k => have := hi.start_iff.mpr (by rw [hwd]; simp); rw [hp] at this; cases this
  simp [hp, hc.2, hword, isFireNE, isCbNE] at hcons
  exact hcons

/-- everything the trace validator accepts is a behaviour the theorems speak about -/
theorem validator_sound {l : Label} {s' : State} (h : Reachable w s) (hn : next s l = some s') : Reachable w s' :=
  .step h (next_sound hn)

/-! ### non-vacuity: concrete workloads reach the interesting states -/

/-- ThenInline racing with Set(42): the consumer's CAS wins, the producer runs the continuation -/
example : ∃ s, Reachable ⟨.set (.val 42), [], .attach false⟩ s ∧ s.delivered = [(.p, .val 42)] := by
  have h : Reachable ⟨.set (.val 42), [], .attach false⟩ _ := runL_preserves (next := next) validator_sound .init
    [.cLoad .empty, .cCas .cont true, .pXchg (.cb .cont), .invoke .p (.val 42)] rfl
  exact ⟨_, h, rfl⟩

/-- the other order: Set first, the consumer finds the result (even after a stale pre-check) and runs it inline -/
example : ∃ s, Reachable ⟨.set (.val 42), [.ready], .attach false⟩ s ∧ s.delivered = [(.c, .val 42)] ∧
    s.readyObs = [(false, false)] := by
  have h : Reachable ⟨.set (.val 42), [.ready], .attach false⟩ _ := runL_preserves (next := next) validator_sound .init
    [.cLoad .empty, .ready false, .pXchg .empty,
     .cLoad .empty,  -- stale read of `empty`
     .cCas .cont false, .invoke .c (.val 42)] rfl
  exact ⟨_, h, rfl, rfl⟩

/-- a dropped Promise delivers StopError to a blocking Get -/
example : ∃ s, Reachable ⟨.drop, [], .getMove⟩ s ∧ s.got = [.err] := by
  have h : Reachable ⟨.drop, [], .getMove⟩ _ := runL_preserves (next := next) validator_sound .init
    [.cLoad .empty, .cCas .event true, .lock .c, .unlock .c, .pXchg (.cb .event), .lock .p, .unlock .p,
     .lock .c, .unlock .c, .got .err] rfl
  exact ⟨_, h, rfl⟩

end Yaclib.Props.C01

/-! ### tie to the source (T2): the kernels this model was written from are unchanged.
`Extracted/Kernels.lean` is regenerated from /repo on every check run. -/
namespace Yaclib.Props.C01.Tie
open Yaclib

theorem tie_SetCallbackImpl : Extracted.Kernels.BaseCore_SetCallbackImpl = Skeletons.BaseCore_SetCallbackImpl := rfl
theorem tie_SetInlineImpl : Extracted.Kernels.BaseCore_SetInlineImpl = Skeletons.BaseCore_SetInlineImpl := rfl
theorem tie_SetResultImpl : Extracted.Kernels.BaseCore_SetResultImpl = Skeletons.BaseCore_SetResultImpl := rfl
theorem tie_Empty : Extracted.Kernels.BaseCore_Empty = Skeletons.BaseCore_Empty := rfl
theorem tie_Ready : Extracted.Kernels.BaseCore_Ready = Skeletons.BaseCore_Ready := rfl
theorem tie_Drop_Impl : Extracted.Kernels.Drop_Impl = Skeletons.Drop_Impl := rfl
theorem tie_Promise_Set : Extracted.Kernels.Promise_Set = Skeletons.Promise_Set := rfl
theorem tie_Promise_dtor : Extracted.Kernels.Promise_dtor = Skeletons.Promise_dtor := rfl
theorem tie_FutureBase_dtor : Extracted.Kernels.FutureBase_dtor = Skeletons.FutureBase_dtor := rfl
theorem tie_FutureBase_Ready : Extracted.Kernels.FutureBase_Ready = Skeletons.FutureBase_Ready := rfl
theorem tie_FutureBase_GetConst : Extracted.Kernels.FutureBase_GetConst = Skeletons.FutureBase_GetConst := rfl
theorem tie_FutureBase_GetMove : Extracted.Kernels.FutureBase_GetMove = Skeletons.FutureBase_GetMove := rfl
theorem tie_FutureBase_Detach : Extracted.Kernels.FutureBase_Detach = Skeletons.FutureBase_Detach := rfl
theorem tie_UniqueCore_CallInline : Extracted.Kernels.UniqueCore_CallInline = Skeletons.UniqueCore_CallInline := rfl
theorem tie_detail_SetCallback : Extracted.Kernels.detail_SetCallback = Skeletons.detail_SetCallback := rfl
theorem tie_Connect : Extracted.Kernels.Connect_Unique = Skeletons.Connect_Unique := rfl
theorem tie_WaitRange : Extracted.Kernels.WaitRange = Skeletons.WaitRange := rfl
theorem tie_WaitCore : Extracted.Kernels.WaitCore = Skeletons.WaitCore := rfl
theorem tie_MutexEvent_Set : Extracted.Kernels.MutexEvent_Set = Skeletons.MutexEvent_Set := rfl
theorem tie_MutexEvent_Wait : Extracted.Kernels.MutexEvent_Wait = Skeletons.MutexEvent_Wait := rfl
theorem tie_CallCallback_Impl : Extracted.Kernels.CallCallback_Impl = Skeletons.CallCallback_Impl := rfl

end Yaclib.Props.C01.Tie
