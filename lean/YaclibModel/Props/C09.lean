/-
C09 — WhenAll / Join complete once, at the right moment, with inputs in input order.

Property theorems about the combinator model `Yaclib.When` (Model/When.lean) for **every** number of inputs, every
success / failure pattern, every interleaving of the registration loop with the completions (each input consumed either
inline by the registering thread or by its completing thread) at atomic-operation granularity, stale pre-check loads
included.  Strategies: `All` (vector form), `AllTuple` (tuple form), `Join`, each with FailPolicy None / FirstFail.
Helper lemmas and the inductive invariants are in Proofs/When*.lean.
-/
import YaclibModel.Base.Run
import YaclibModel.Proofs.WhenSpec
import YaclibModel.Proofs.WhenNodes
import YaclibModel.Proofs.WhenComposeProgress
import YaclibModel.Proofs.WhenComposeSharedSim
import YaclibModel.Proofs.WhenComposeMixed
import YaclibModel.Extracted.Kernels
import YaclibModel.Model.Skeletons

namespace Yaclib.Props.C09
open Yaclib.When

variable {w : Workload} {s : State}

/-- the output promise is set at most once … -/
theorem out_set_once (hwf : w.wf) (h : Reachable w s) : s.outSet.length ≤ 1 :=
  (inv_reachable hwf h).o.len

/-- … and, when nothing can move any more (and nothing crashed), exactly once; every consumption has finished -/
theorem out_set_exactly_once_at_quiescence (hwf : w.wf) (h : Reachable w s) (hn : w.n ≠ 0) (hc : s.crashed = false)
    (hq : ∀ l s', ¬ Step w s l s') : s.outSet.length = 1 ∧ ∀ i, i < w.n → s.pc i = .done := by
  have hI := inv_reachable hwf h
  have hd := done_of_quiescent hI.c hc hq
  exact ⟨(complete_of_all_done hI.c hI.o hn hd).1, hd⟩

/-- None, or no failing input (vector and tuple form): the output is set by the consumption that dropped the last
    combinator reference — i.e. after every input was consumed — and carries input i's Result / value at index i,
    whatever the completion order was -/
theorem all_none_at_last_in_index_order {ff : Bool} (h : Reachable w s)
    (hs : w.strat = .allVec ff ∨ w.strat = .allTuple ff) (hok : ff = false ∨ ∀ i, i < w.n → ok (w.inp i) = true) :
    ∀ o, o ∈ s.outSet → o = .vec (w.inputs.map some) ∧ ∀ j, j < w.n → holding (s.pc j) = false := by
  have hwf : w.wf := wf_of_ne (by rcases hs with hs | hs <;> simp [hs])
  have hI := inv_reachable hwf h
  have hV := invv_reachable hwf h
  intro o ho
  have hw : s.win = none := by
    cases hwin : s.win with
    | none => rfl
    | some k =>
        exfalso
        rcases hok with hff | hall
        · subst hff
          have := hI.o.none_win (by rcases hs with hs | hs <;> simp [hs, Strat.noneKind])
          rw [hwin] at this; cases this
        · cases ff with
          | false =>
              have := hI.o.none_win (by rcases hs with hs | hs <;> simp [hs, Strat.noneKind])
              rw [hwin] at this; cases this
          | true =>
              have hf := hI.r.done_fail (by rcases hs with hs | hs <;> simp [hs, Strat.allFF]) k (hI.r.win_done k hwin)
              rw [hall k (win_lt hI.c hI.r hwin)] at hf; cases hf
  have hne : s.outSet ≠ [] := fun h => by rw [h] at ho; cases ho
  refine ⟨?_, all_finished_of_out_dtor hI.c hI.o hne hw⟩
  have := (hV.out_dtor o ho hw).1
  rw [this, ← range_map_inp]
  rcases hs with hs | hs <;> simp [dtorExpected, hs]

/-- FirstFail with a failing input: the output carries the failure of the input whose consumption was the first to
    exchange the done flag (the linearisation point of "first failing consumption") -/
theorem all_firstfail_first_failure (h : Reachable w s) (hs : w.strat.allFF = true)
    (hf : ∃ i, i < w.n ∧ ok (w.inp i) = false) :
    ∀ o, o ∈ s.outSet → ∃ k, s.rmwOrder.head? = some k ∧ k < w.n ∧ ok (w.inp k) = false ∧ o = .one (w.inp k) := by
  have hu : w.strat.usesFlag = true := by
    cases hst : w.strat with
    | allVec b => cases b <;> simp_all [Strat.allFF, Strat.usesFlag]
    | allTuple b => cases b <;> simp_all [Strat.allFF, Strat.usesFlag]
    | join b => cases b <;> simp_all [Strat.allFF, Strat.usesFlag]
    | _ => simp_all [Strat.allFF]
  have hwf : w.wf := wf_of_ne (by intro h'; rw [h'] at hs; cases hs)
  have hI := inv_reachable hwf h
  have hV := invv_reachable hwf h
  have hF := hI.f hu
  intro o ho
  cases hwin : s.win with
  | some k =>
      exact ⟨k, by rw [← hF.flag_head, hwin], win_lt hI.c hI.r hwin,
        hI.r.done_fail hs k (hI.r.win_done k hwin), hV.out_win o ho k hwin⟩
  | none =>
      exfalso
      obtain ⟨i, hi, hbad⟩ := hf
      have hne : s.outSet ≠ [] := fun h => by rw [h] at ho; cases ho
      have hfin := all_finished_of_out_dtor hI.c hI.o hne hwin i hi
      have hfl := hF.flag_past i (past_of_not_holding hfin) (Or.inl hbad)
      exact (hF.flag_win.mp hfl) hwin

/-- "as soon as": the consumption that wins the flag goes straight to setting the output, whatever the other inputs do,
    and that step is enabled in every (non-crashed) state -/
theorem firstfail_winner_sets_next {i : Nat} (hc : s.crashed = false) (hf : s.flag = false) :
    (doXchgFlag w s i).pc i = .setOut (.one (w.inp i)) ∧
    ∃ s'', Step w (doXchgFlag w s i) (.setOut i (.one (w.inp i))) s'' := by
  have h1 : (doXchgFlag w s i).pc i = .setOut (.one (w.inp i)) := by simp [doXchgFlag, hf, upd]
  exact ⟨h1, _, .setOut _ i _ (by simp [doXchgFlag, hf, hc]) h1⟩

/-- every input is consumed (its callback entered) and released at most once, whether or not the output was decided … -/
theorem inputs_consumed_once (hwf : w.wf) (h : Reachable w s) : ∀ i, s.consumed i ≤ 1 ∧ s.released i ≤ 1 :=
  consumed_released_le_one (inv_reachable hwf h).c

/-- … and exactly once by the time nothing can move any more -/
theorem inputs_consumed_exactly_once_at_quiescence (hwf : w.wf) (h : Reachable w s) (hn : w.n ≠ 0) (hc : s.crashed = false)
    (hq : ∀ l s', ¬ Step w s l s') : ∀ i, i < w.n → s.consumed i = 1 ∧ s.released i = 1 := by
  have hI := inv_reachable hwf h
  exact (complete_of_all_done hI.c hI.o hn (done_of_quiescent hI.c hc hq)).2

/-- nobody touches the combinator after its destructor started: whoever runs it is alone -/
theorem destructor_runs_alone (hwf : w.wf) (h : Reachable w s) {i j : Nat} (hd : inDtor (s.pc i) = true) (hj : j < w.n)
    (hji : j ≠ i) : s.pc j = .done :=
  (inv_reachable hwf h).c.dtor i j hd hj hji

/-- Join is the same without values: `Set()` after the last consumption if nothing failed (or under None), else the
    failure of the first consumption to exchange the flag -/
theorem join_like_all {ff : Bool} (h : Reachable w s) (hs : w.strat = .join ff) :
    ∀ o, o ∈ s.outSet →
      (o = .unit ∧ (∀ j, j < w.n → holding (s.pc j) = false) ∧ (ff = false ∨ ∀ i, i < w.n → ok (w.inp i) = true)) ∨
      (ff = true ∧ ∃ k, s.rmwOrder.head? = some k ∧ k < w.n ∧ ok (w.inp k) = false ∧ o = .one (w.inp k)) := by
  have hwf : w.wf := wf_of_ne (by simp [hs])
  have hI := inv_reachable hwf h
  have hV := invv_reachable hwf h
  intro o ho
  have hne : s.outSet ≠ [] := fun h => by rw [h] at ho; cases ho
  cases hwin : s.win with
  | none =>
      left
      have hfin := all_finished_of_out_dtor hI.c hI.o hne hwin
      refine ⟨?_, hfin, ?_⟩
      · have := (hV.out_dtor o ho hwin).1
        rw [this]; simp [dtorExpected, hs]
      · cases ff with
        | false => exact Or.inl rfl
        | true =>
            right
            intro i hi
            cases hok : ok (w.inp i) with
            | true => rfl
            | false =>
                have hF := hI.f (by rw [hs]; rfl)
                have hfl := hF.flag_past i (past_of_not_holding (hfin i hi)) (Or.inl hok)
                exact absurd hwin (hF.flag_win.mp hfl)
  | some k =>
      right
      cases ff with
      | false =>
          have := hI.o.none_win (by rw [hs]; rfl)
          rw [hwin] at this; cases this
      | true =>
          have hF := hI.f (by rw [hs]; rfl)
          exact ⟨rfl, k, by rw [← hF.flag_head, hwin], win_lt hI.c hI.r hwin,
            hI.r.done_fail (by rw [hs]; rfl) k (hI.r.win_done k hwin), hV.out_win o ho k hwin⟩

/-- an empty input set: `When` returns `Future{nullptr}` — no combinator, no promise, nothing ever happens -/
theorem empty_is_invalid (hn : w.n = 0) (h : Reachable w s) : s = init w ∧ s.outSet = [] ∧ ∀ l s', ¬ Step w s l s' := by
  induction h with
  | init => exact ⟨rfl, rfl, fun l s' hs => no_step_of_empty (inv_init w) hn hs⟩
  | step hr hs ih => exact absurd hs (ih.2.2 _ _)

/-- the input whose consumption (or registration) a step belongs to -/
def actor : Label → Nat
  | .regSet i _ | .fire i | .retire i | .loadFlag i _ | .xchgFlag i _ | .load3 i _ | .xchg3 i _ | .cas3 i _ | .loadLf i _
  | .xchgLf i _ | .fsubLf i _ | .setOut i _ | .dec i _ | .dtorRel i _ | .dtorSet i _ | .dtorThrow i | .crash i => i

/-- no use after free: whenever a step touches the combinator (its callbacks, its strategy, its counter), the combinator
    still has a reference — the acting input's own — and no destructor has started, or the step IS the destructor's -/
theorem combinator_touched_only_while_alive (hwf : w.wf) (h : Reachable w s) {l : Label} {s' : State} (hs : Step w s l s') :
    (0 < s.count ∧ s.dt = none) ∨ s.dt = some (actor l) := by
  have hC := (inv_reachable hwf h).c
  have alive : ∀ i, holding (s.pc i) = true → i < w.n → 0 < s.count ∧ s.dt = none := by
    intro i hh hi
    have hpos : 0 < s.count := by rw [hC.count]; exact cnt_pos (p := fun j => holding (s.pc j)) hi hh
    refine ⟨hpos, ?_⟩
    cases hd : s.dt with
    | none => rfl
    | some k => have := hC.dt_cnt (by rw [hd]; simp); omega
  have byPc : ∀ i, s.pc i ≠ .unreg → s.pc i ≠ .done → (0 < s.count ∧ s.dt = none) ∨ s.dt = some i := by
    intro i hne hnd
    cases hh : holding (s.pc i) with
    | true => exact Or.inl (alive i hh (hC.idx hne))
    | false =>
        cases hd : inDtor (s.pc i) with
        | true => exact Or.inr (hC.dtor_dt i hd)
        | false => exact absurd (done_of_not_holding hh hd) hnd
  cases hs with
  | regSet i okb hc hb hr hn =>
      exact Or.inl (alive i (by rw [(hC.unreg i).mpr (by omega)]; rfl) hn)
  | fire i hc hp => exact byPc i (by rw [hp]; simp) (by rw [hp]; simp)
  | retire i hc hp => exact byPc i (by rw [hp]; simp) (by rw [hp]; simp)
  | loadFlag i b hc hp hs hb => exact byPc i (by rw [hp]; simp) (by rw [hp]; simp)
  | xchgFlag i hc hp hs => exact byPc i (by rw [hp]; simp) (by rw [hp]; simp)
  | setOut i o hc hp => exact byPc i (by rw [hp]; simp) (by rw [hp]; simp)
  | load3 i x hc hp hs hx => exact byPc i (by rw [hp]; simp) (by rw [hp]; simp)
  | xchg3 i hc hp hs hv => exact byPc i (by rw [hp]; simp) (by rw [hp]; simp)
  | cas3 i hc hp hs hv => exact byPc i (by rw [hp]; simp) (by rw [hp]; simp)
  | loadLf i d hc hp hs hd => exact byPc i (by rw [hp]; simp) (by rw [hp]; simp)
  | xchgLf i hc hp hs hv => exact byPc i (by rw [hp]; simp) (by rw [hp]; simp)
  | fsubLf i hc hp hs hv => exact byPc i (by rw [hp]; simp) (by rw [hp]; simp)
  | dec i store hc hp => exact byPc i (by rw [hp]; simp) (by rw [hp]; simp)
  | dtorRel i j hc hp => exact byPc i (by rw [hp]; simp) (by rw [hp]; simp)
  | dtorSet i o hc hp ho => exact byPc i (by rw [hp]; simp) (by rw [hp]; simp)
  | dtorThrow i hc hp ho => exact byPc i (by rw [hp]; simp) (by rw [hp]; simp)
  | crash i hc hp => rcases hp with hp | hp <;> exact byPc i (by rw [hp]; simp) (by rw [hp]; simp)

/-- the registration loop reads the combinator (`Register`, the address of the callback node) only for an input it has not
    registered yet, i.e. while that input's reference is still there -/
theorem registration_touches_live_combinator (hwf : w.wf) (h : Reachable w s) {i : Nat} {okb : Bool} {s' : State}
    (hs : Step w s (.regSet i okb) s') : 0 < s.count ∧ s.dt = none := by
  rcases combinator_touched_only_while_alive hwf h hs with h1 | h1
  · exact h1
  · exfalso
    have hC := (inv_reachable hwf h).c
    cases hs with
    | regSet _ _ hc hb hr hn =>
        have hp := (hC.unreg i).mpr (by omega)
        have := hC.dt_pc i h1
        rw [hp] at this; cases this

/-- … and after the last `SetCallback` the registering thread takes no further step on the combinator: from then on the
    last reference may be dropped by any completing thread (the loops of `Set` continue on locals only:
    `tie_DynamicCombinator_Set`, `tie_SingleCombinator_Set`, `tie_StaticCombinator_SetImpl`) -/
theorem registration_over_after_last_input (hr : s.reg = w.n) : ∀ i okb s', ¬ Step w s (.regSet i okb) s' := by
  intro i okb s' hs
  cases hs with
  | regSet _ _ hc hb hr' hn => omega

/-! ### callback nodes of the variadic form (Model/WhenNodes.lean): the assumption behind "input i's callback is entered
exactly once" for shared inputs — a SharedCore threads its subscriber list through the callback object -/

/-- `translate_index_v<i, Cores, SharedCores>` is the number of shared cores before position i … -/
theorem translate_index_is_rank (cores : List Nodes.CoreTy) (i : Nat) :
    Nodes.translateIndex i 0 cores (Nodes.sharedCores cores) = Nodes.rank cores i := Nodes.translate_rank cores i

/-- … hence two different shared inputs never share a callback node (ordered or unordered strategy, any mix of types),
    and the node exists in `callbacks.shared_tuple` -/
theorem shared_inputs_have_own_callback_node (ordered : Bool) (cores : List Nodes.CoreTy) {i j : Nat} {ci cj : Nodes.CoreTy}
    (hne : i ≠ j) (hi : cores[i]? = some ci) (hj : cores[j]? = some cj) (hsi : ci.shared = true) (hsj : cj.shared = true) :
    Nodes.staticNode ordered cores i ≠ Nodes.staticNode ordered cores j ∧
    ∃ k, Nodes.staticNode false cores i = .shared k ∧ k < (Nodes.sharedCores cores).length :=
  ⟨Nodes.shared_inputs_have_own_node ordered cores hne hi hj hsi hsj, Nodes.shared_node_exists cores hi hsi⟩

/-- looking a shared input's node up by core type (the way unique inputs do) would give two same-typed shared inputs ONE node -/
theorem node_lookup_by_type_violated_witness :
    Nodes.staticNodeByType [⟨true, 0⟩, ⟨true, 0⟩] 0 = Nodes.staticNodeByType [⟨true, 0⟩, ⟨true, 0⟩] 1 :=
  Nodes.lookup_by_type_shares_a_node.1

/-- the rank theorem speaks about positions among ALL shared cores, whatever their value types; a `TranslateIndexImpl` that does
    not consume the target tuple gives the two `Y` inputs of (Shared<X>, Shared<Y>, Shared<Y>) one slot -/
theorem translate_without_consuming_violated_witness :
    Nodes.translateIndexNoConsume 1 0 [⟨true, 0⟩, ⟨true, 1⟩, ⟨true, 1⟩] (Nodes.sharedCores [⟨true, 0⟩, ⟨true, 1⟩, ⟨true, 1⟩]) =
    Nodes.translateIndexNoConsume 2 0 [⟨true, 0⟩, ⟨true, 1⟩, ⟨true, 1⟩] (Nodes.sharedCores [⟨true, 0⟩, ⟨true, 1⟩, ⟨true, 1⟩]) :=
  Nodes.no_consume_shares_a_slot.1

/-- everything the trace validator accepts is a behaviour the theorems speak about -/
theorem validator_sound {l : Label} {s' : State} (h : Reachable w s) (hn : next w s l = some s') : Reachable w s' :=
  .step h (next_sound hn)

/-- **no strategy step crashes**, for every strategy: no consumption ever reaches a throwing state, no destructor throws
    (`Retire().Value()` in `~All<FirstFail>` only runs when no input failed; `~Any<FirstFail>` always finds a saved failure;
    a failing consumption that lost the flag does nothing more). -/
theorem no_crash (hwf : w.wf) (h : Reachable w s) :
    s.crashed = false ∧ ∀ i, s.pc i ≠ .boom ∧ s.pc i ≠ .dboom := by
  have hB := invb_reachable hwf h
  exact ⟨hB.not_crashed, fun i => ⟨hB.no_boom i, hB.no_dboom i⟩⟩

/- Defect D2 of the pinned tree, fixed by /repo 2b9a400; exhibited by this check before the fix: scenario
   `when kind=alltuple policy=firstfail n=2 pattern=E,E shape=u,u form=static api=WhenAll(u0,u1)`, every schedule
   (`AllTuple<FirstFail>::Consume` ran `std::forward<Result>(result).Value()` on a second failing input, after the first
   failure took the flag: `std::bad_variant_access` inside a noexcept function ⇒ `std::terminate`).  The model then had
   `lose (.allTuple true) = .boom` and this file proved

     theorem no_crash_violated_witness :
         ∃ s, Reachable ⟨.allTuple true, [.err 0, .err 1]⟩ s ∧ s.crashed = true ∧ s.outSet = [.one (.err 0)]
     -- run: regSet 0 true, regSet 1 true, fire 0, retire 0, loadFlag 0 false, xchgFlag 0 false, setOut 0 (one (err 0)),
     --      fire 1, retire 1, loadFlag 1 true, crash 1

   together with `no_crash_partial` (every strategy except the tuple form with FirstFail). -/

/-- the tuple form with FirstFail and two failing inputs (the former D2 scenario): the second failure loses the flag,
    stores nothing, and the run completes with the first failure as output -/
example : ∃ s, Reachable ⟨.allTuple true, [.err 0, .err 1]⟩ s ∧ s.crashed = false ∧ s.outSet = [.one (.err 0)] ∧
    s.pc 0 = .done ∧ s.pc 1 = .done ∧ s.released 0 = 1 ∧ s.released 1 = 1 := by
  have h := runL_preserves (next := next ⟨.allTuple true, [.err 0, .err 1]⟩) validator_sound .init
    [.regSet 0 true, .regSet 1 true, .fire 0, .retire 0, .loadFlag 0 false, .xchgFlag 0 false,
     .setOut 0 (.one (.err 0)), .fire 1, .retire 1, .loadFlag 1 true, .dec 1 2, .dec 0 1] rfl
  exact ⟨_, h, rfl, rfl, rfl, rfl, rfl, rfl⟩

/-! ### inputs as real unique cores (Model/WhenCompose.lean): the interface of the When model is a theorem, not an assumption

`WhenU` = the When model composed with n instances of the C01 model (Model/Unique.lean), one per input: the combinator's
`SetCallback` on input i is instance i's consumer (`load`, `compare_exchange`), the input's completion is instance i's
producer (`exchange`), and "the callback of input i is entered" is instance i's `invoke` event.  The interleavings INSIDE
`SetCallback` / `Promise::Set` of every input, which the When model's `regSet` / `fire` steps hide, are all there. -/

section Composed
open Yaclib
variable {S : WhenU.State}

/-- **the interface is sound**: the When component of every reachable state of the composed system is a reachable state of
    the When model (each `regSet` / `fire` it took was enabled when the input instance produced it); the callback entries it
    counted are exactly instance i's continuation deliveries: at most one, carrying input i's outcome -/
theorem input_interface_sound (hwf : w.wf) (h : WhenU.Reachable w S) :
    Reachable w S.wh ∧
    ∀ i, S.wh.consumed i = (S.u i).delivered.length ∧ (S.u i).delivered.length ≤ 1 ∧
      ∀ x, x ∈ (S.u i).delivered → x.2 = WhenU.conv (w.inp i) := by
  obtain ⟨hW, hK⟩ := WhenU.sim hwf h
  refine ⟨hW, fun i => ⟨hK.entries i, ?_, ?_⟩⟩
  · have hI := Unique.inv_reachable (WhenU.unique_reachable h i).1
    rcases hI.delivered_one with h0 | h1
    · simp [h0]
    · omega
  · exact (Unique.inv_reachable (WhenU.unique_reachable h i).1).delivered_val

/-- the registering thread enters the callback inline only for the input the loop is at, only when that input's word already
    held the result (`SetCallback` returned false), and with that input's outcome -/
theorem callback_entered_inline_only_if_complete (h : WhenU.Reachable w S) {i : Nat} {r : Unique.Res} {S' : WhenU.State}
    (hs : WhenU.Step w S (.enterC i r) S') :
    (S.u i).word = .result ∧ r = WhenU.conv (w.inp i) ∧ S.wh.reg = i ∧ (S.u i).delivered = [] := by
  have hI := Unique.inv_reachable (WhenU.unique_reachable h i).1
  have hk := (WhenU.unique_reachable h i).2
  cases hs with
  | enterC _ _ u' hr hu =>
      cases hu with
      | cInvoke r' hp hv hst =>
          refine ⟨(hI.c_after (Or.inl ⟨_, hp⟩)).1, (hI.stored_val r hst).1, hr.1, ?_⟩
          rcases hI.delivered_one with h0 | h1
          · exact h0
          · rw [h1.2.1.1] at hp; cases hp
      | cInvokeSub r' hp hst => have := hk.cpc; rw [hp] at this; simp at this

/-- the completing thread enters the callback only after it was installed (the When model is waiting: `pending`), after the
    result was stored, with that input's outcome -/
theorem callback_entered_by_completer_only_if_installed (hwf : w.wf) (h : WhenU.Reachable w S) {i : Nat} {r : Unique.Res}
    {S' : WhenU.State} (hs : WhenU.Step w S (.enterP i r) S') :
    S.wh.pc i = .pending ∧ (S.u i).stored = some r ∧ r = WhenU.conv (w.inp i) ∧ (S.u i).delivered = [] := by
  have hI := Unique.inv_reachable (WhenU.unique_reachable h i).1
  have hk := (WhenU.unique_reachable h i).2
  have hK := (WhenU.sim hwf h).2
  cases hs with
  | enterP _ _ u' hi hu =>
      cases hu with
      | pInvoke r' hp hv hst =>
          refine ⟨hK.fire_pending i hp, hst, (hI.stored_val r hst).1, ?_⟩
          rcases hI.delivered_one with h0 | h1
          · exact h0
          · rw [h1.2.2] at hp; cases hp
      | pInvokeSub r' hp hst => have := hk.ppc; rw [hp] at this; simp at this

/-- nothing is lost in the composed system: when no thread can move, every promise was fulfilled, every `SetCallback`
    returned, every callback was entered exactly once, every input was released exactly once, the output was set exactly once -/
theorem quiescent_complete_composed (hwf : w.wf) (hn : w.n ≠ 0) (h : WhenU.Reachable w S)
    (hq : ∀ l S', ¬ WhenU.Step w S l S') :
    S.wh.outSet.length = 1 ∧ S.wh.crashed = false ∧
    ∀ i, i < w.n → S.wh.pc i = .done ∧ S.wh.released i = 1 ∧ (S.u i).delivered.length = 1 ∧ (S.u i).ppc = .done ∧
      (S.u i).todo = [] := by
  obtain ⟨hW, hK⟩ := WhenU.sim hwf h
  obtain ⟨hqw, _, hinst⟩ := WhenU.quiescent_parts hwf h hq
  have hI := inv_reachable hwf hW
  have hcr := (invb_reachable hwf hW).not_crashed
  have hd := done_of_quiescent hI.c hcr hqw
  have hc := complete_of_all_done hI.c hI.o hn hd
  refine ⟨hc.1, hcr, fun i hi => ⟨hd i hi, (hc.2 i hi).2, ?_, (hinst i hi).1, (hinst i hi).2.1⟩⟩
  rw [← hK.entries i]; exact (hc.2 i hi).1

/-- every safety theorem of this file applies to the composed system through `input_interface_sound`; for instance: -/
theorem out_set_once_composed (hwf : w.wf) (h : WhenU.Reachable w S) : S.wh.outSet.length ≤ 1 :=
  out_set_once hwf (input_interface_sound hwf h).1

theorem no_crash_composed (hwf : w.wf) (h : WhenU.Reachable w S) : S.wh.crashed = false :=
  (no_crash hwf (input_interface_sound hwf h).1).1

theorem all_none_in_index_order_composed {ff : Bool} (h : WhenU.Reachable w S)
    (hs : w.strat = .allVec ff ∨ w.strat = .allTuple ff) (hok : ff = false ∨ ∀ i, i < w.n → ok (w.inp i) = true) :
    ∀ o, o ∈ S.wh.outSet → o = .vec (w.inputs.map some) ∧ ∀ j, j < w.n → holding (S.wh.pc j) = false :=
  all_none_at_last_in_index_order
    (input_interface_sound (wf_of_ne (by rcases hs with hs | hs <;> simp [hs])) h).1 hs hok

theorem composed_validator_sound {l : WhenU.Label} {S' : WhenU.State} (h : WhenU.Reachable w S)
    (hn : WhenU.next w S l = some S') : WhenU.Reachable w S' := .step h (WhenU.next_sound hn)

/-- non-vacuity (n = 2, driven through the components' `next`): input 0 is complete before the registration reaches it
    (its `SetCallback` loads `result`, the callback is entered inline), input 1 gets its callback installed and is completed
    later by its own thread; the vector comes out in index order -/
example : ∃ S, WhenU.Reachable ⟨.allVec false, [.val 0, .val 1]⟩ S ∧
    S.wh.outSet = [.vec [some (.val 0), some (.val 1)]] ∧ (S.u 0).delivered = [(.c, .val 0)] ∧
    (S.u 1).delivered = [(.p, .val 1)] := by
  have h := runL_preserves (next := WhenU.next ⟨.allVec false, [.val 0, .val 1]⟩) composed_validator_sound .init
    [.prod 0 .empty, .cload 0 .result, .enterC 0 (.val 0), .when (.dec 0 2), .cload 1 .empty, .casOk 1,
     .prod 1 (.cb .cont), .enterP 1 (.val 1), .when (.dec 1 1), .when (.dtorRel 1 0), .when (.dtorRel 1 1),
     .when (.dtorSet 1 (.vec [some (.val 0), some (.val 1)]))] rfl
  exact ⟨_, h, rfl, rfl, rfl⟩

end Composed

/-! ### inputs as real shared cores (Model/WhenComposeShared.lean): the entry interface is a theorem for SharedFuture inputs too

`WhenS` = the When model composed with n instances of the C06 model (Model/Shared.lean): observer 0 of instance i is the
combinator's registration (`[attach .retire]`), ANY number of other observers with arbitrary programs (earlier subscribers,
kept copies, waiters, other combinators) run freely.  Only the ENTRY of the combinator callback is synchronised; `Retire()` of
the entered callback is a free step of the instance (what it does: C06 `retire_moves_only_as_sole_owner`). -/

section ComposedShared
open Yaclib
variable {W : WhenS.Workload} {T : WhenS.State}

/-- **the entry interface is sound for shared inputs**: the When part of every reachable `WhenS` state is When-reachable; the
    callback entries it counted are exactly the times instance i fired the combinator callback: at most once (C06
    `fired_once`), and whatever fired on that core saw input i's outcome (C06 `fired_after_store`) -/
theorem shared_input_interface_sound (hwf : W.w.wf) (h : WhenS.Reachable W T) :
    Reachable W.w T.wh ∧
    ∀ i, T.wh.consumed i = (Shared.firedIds (T.sh i)).count WhenS.cb0 ∧ (Shared.firedIds (T.sh i)).count WhenS.cb0 ≤ 1 ∧
      ∀ x, x ∈ (T.sh i).fired → x.2 = some (WhenS.convS (W.w.inp i)) := by
  obtain ⟨hW, hK⟩ := WhenS.sim hwf h
  refine ⟨hW, fun i => ⟨hK.entries i, ?_, ?_⟩⟩
  · have hI := Shared.inv_reachable (WhenS.shared_reachable h i).1
    have h1 := hI.c.conserve WhenS.cb0
    have h2 := hI.c.nodup WhenS.cb0
    omega
  · exact (Shared.inv_reachable (WhenS.shared_reachable h i).1).a.fired_val

/-- the registering thread enters the callback inline only for the input the loop is at, only after that input was fulfilled
    (`SetCallbackImpl<true>` saw `kResult`), and it is the first entry -/
theorem shared_callback_entered_inline_only_if_complete (h : WhenS.Reachable W T) {i : Nat} {T' : WhenS.State}
    (hs : WhenS.Step W T (.enterC i) T') :
    (T.sh i).word = .result ∧ (T.sh i).stored = some (WhenS.convS (W.w.inp i)) ∧ T.wh.reg = i ∧
    (Shared.firedIds (T.sh i)).count WhenS.cb0 = 0 := by
  have hU := WhenS.shared_reachable h i
  have hI := Shared.inv_reachable hU.1
  cases hs with
  | enterC _ s' hr hu =>
      obtain ⟨_, _, _, f4, _, _, f7⟩ := WhenS.enterC_frame hI hU.2 hu
      refine ⟨hI.a.word_iff.mpr f7, ?_, hr.1, f4⟩
      rw [hI.a.stored_eq, if_neg f7]; rfl

/-- the fulfiller's walk enters the callback only after it was installed (the When model is `pending`), with the stored
    outcome of that input, and it is the first entry -/
theorem shared_callback_entered_by_completer_only_if_installed (hwf : W.w.wf) (h : WhenS.Reachable W T) {i : Nat}
    {T' : WhenS.State} (hs : WhenS.Step W T (.enterP i) T') :
    T.wh.pc i = .pending ∧ (T.sh i).stored = some (WhenS.convS (W.w.inp i)) ∧
    (Shared.firedIds (T.sh i)).count WhenS.cb0 = 0 := by
  have hU := WhenS.shared_reachable h i
  have hI := Shared.inv_reachable hU.1
  have hK := (WhenS.sim hwf h).2
  cases hs with
  | enterP _ s' hi hu =>
      obtain ⟨_, f2, _, _, f5, _, f7⟩ := WhenS.enterP_frame hI hU.2 hu
      exact ⟨hK.lists_pending i f2, f7, f5⟩

theorem out_set_once_shared (hwf : W.w.wf) (h : WhenS.Reachable W T) : T.wh.outSet.length ≤ 1 :=
  out_set_once hwf (shared_input_interface_sound hwf h).1

theorem no_crash_shared (hwf : W.w.wf) (h : WhenS.Reachable W T) : T.wh.crashed = false :=
  (no_crash hwf (shared_input_interface_sound hwf h).1).1

theorem inputs_consumed_once_shared (hwf : W.w.wf) (h : WhenS.Reachable W T) :
    ∀ i, T.wh.consumed i ≤ 1 ∧ T.wh.released i ≤ 1 :=
  inputs_consumed_once hwf (shared_input_interface_sound hwf h).1

theorem shared_validator_sound {l : WhenS.Label} {T' : WhenS.State} (h : WhenS.Reachable W T)
    (hn : WhenS.next W T l = some T') : WhenS.Reachable W T' := .step h (WhenS.next_sound hn)

/-- non-vacuity (n = 2 SharedFuture inputs, driven through the components' `next`): input 1 already has another subscriber
    (observer 1: `SubscribeInline`) when the combinator registers; input 1 completes first — its walk enters the combinator
    callback, then runs the subscriber with input 1's value —, input 0 afterwards; the vector comes out in index order -/
example : ∃ T, WhenS.Reachable ⟨⟨.allVec false, [.val 0, .val 1]⟩, fun i => if i = 1 then [[.attach .inl]] else []⟩ T ∧
    T.wh.outSet = [.vec [some (.val 0), some (.val 1)]] ∧
    (T.sh 1).fired = [(WhenS.cb0, some (.val 1)), (⟨1, 0, .inl⟩, some (.val 1))] ∧
    (T.sh 0).fired = [(WhenS.cb0, some (.val 0))] := by
  let W : WhenS.Workload := ⟨⟨.allVec false, [.val 0, .val 1]⟩, fun i => if i = 1 then [[.attach .inl]] else []⟩
  let sub : Shared.Cb := ⟨1, 0, .inl⟩
  have h := runL_preserves (next := WhenS.next W) shared_validator_sound .init
    [.free 1 (.oLoad 1 (.list [])), .free 1 (.oCasOk 1), .reg 0 (.oLoad 0 (.list [])), .casOk 0,
     .reg 1 (.oLoad 0 (.list [sub])), .casOk 1, .free 1 (.fXchg (.list [WhenS.cb0, sub])), .enterP 1,
     .when (.dec 1 2), .free 1 (.fDec 5), .free 1 (.fInvoke sub (some (.val 1))),
     .free 0 (.fXchg (.list [WhenS.cb0])), .free 0 (.fDec 4), .enterP 0, .when (.dec 0 1), .when (.dtorRel 0 0),
     .when (.dtorRel 0 1), .when (.dtorSet 0 (.vec [some (.val 0), some (.val 1)]))] rfl
  exact ⟨_, h, rfl, rfl, rfl⟩

end ComposedShared

/-! ### packs mixing unique and shared inputs (Model/WhenComposeMixed.lean): `WhenM`, instance i a C01 unique core or a C06
shared core with other observers, chosen by the workload; the synchronised steps are the union of WhenU's and WhenS's -/

section ComposedMixed
open Yaclib
variable {M : WhenM.Workload} {R : WhenM.State}

/-- **the entry interface is sound for mixed packs**: the When part is When-reachable; per input the callback entries the
    When model counted are the deliveries of the unique instance / the times the shared instance fired the combinator
    callback, at most one -/
theorem mixed_input_interface_sound (hwf : M.w.wf) (h : WhenM.Reachable M R) :
    Reachable M.w R.wh ∧
    (∀ i, M.kind i = false → R.wh.consumed i = (R.u i).delivered.length ∧ (R.u i).delivered.length ≤ 1) ∧
    (∀ i, M.kind i = true → R.wh.consumed i = (Shared.firedIds (R.sh i)).count WhenS.cb0 ∧
      (Shared.firedIds (R.sh i)).count WhenS.cb0 ≤ 1) := by
  obtain ⟨hW, hK⟩ := WhenM.sim hwf h
  refine ⟨hW, fun i hk => ⟨hK.u_entries i hk, ?_⟩, fun i hk => ⟨hK.s_entries i hk, ?_⟩⟩
  · have hI := Unique.inv_reachable (WhenM.parts_reachable h i).1.1
    rcases hI.delivered_one with h0 | h1
    · simp [h0]
    · omega
  · have hI := Shared.inv_reachable (WhenM.parts_reachable h i).2.1
    have h1 := hI.c.conserve WhenS.cb0
    have h2 := hI.c.nodup WhenS.cb0
    omega

theorem out_set_once_mixed (hwf : M.w.wf) (h : WhenM.Reachable M R) : R.wh.outSet.length ≤ 1 :=
  out_set_once hwf (mixed_input_interface_sound hwf h).1

theorem no_crash_mixed (hwf : M.w.wf) (h : WhenM.Reachable M R) : R.wh.crashed = false :=
  (no_crash hwf (mixed_input_interface_sound hwf h).1).1

/-- non-vacuity (n = 2, driven through the components' `next`): input 0 is a Future, input 1 a SharedFuture that already has
    a `SubscribeInline` subscriber; input 1 completes first (its walk enters the combinator callback, then runs the
    subscriber), input 0 afterwards; the vector comes out in index order -/
example : ∃ R, WhenM.Reachable ⟨⟨.allVec false, [.val 0, .val 1]⟩, fun i => decide (i = 1),
      fun i => if i = 1 then [[.attach .inl]] else []⟩ R ∧
    R.wh.outSet = [.vec [some (.val 0), some (.val 1)]] ∧ (R.u 0).delivered = [(.p, .val 0)] ∧
    (R.sh 1).fired = [(WhenS.cb0, some (.val 1)), (⟨1, 0, .inl⟩, some (.val 1))] := by
  let M : WhenM.Workload := ⟨⟨.allVec false, [.val 0, .val 1]⟩, fun i => decide (i = 1),
    fun i => if i = 1 then [[.attach .inl]] else []⟩
  let sub : Shared.Cb := ⟨1, 0, .inl⟩
  have h0 : WhenM.Reachable M (WhenM.init M) := .init
  have h1 := WhenM.Reachable.step h0 (.sfree _ 1 (.oLoad 1 (.list [])) _ rfl (by decide) rfl (Shared.next_sound rfl))
  have h2 := WhenM.Reachable.step h1 (.sfree _ 1 (.oCasOk 1) _ rfl (by decide) rfl (Shared.next_sound rfl))
  have h3 := WhenM.Reachable.step h2 (.ucload _ 0 .empty _ rfl ⟨rfl, rfl, by decide, rfl⟩ (Unique.next_sound rfl))
  have h4 := WhenM.Reachable.step h3 (.ucasOk _ 0 _ rfl ⟨rfl, rfl, by decide, rfl⟩ (Unique.next_sound rfl))
  have h5 := WhenM.Reachable.step h4
    (.sreg _ 1 (.oLoad 0 (.list [sub])) _ rfl ⟨rfl, rfl, by decide, rfl⟩ rfl (Shared.next_sound rfl))
  have h6 := WhenM.Reachable.step h5 (.scasOk _ 1 _ rfl ⟨rfl, rfl, by decide, rfl⟩ (Shared.next_sound rfl))
  have h7 := WhenM.Reachable.step h6
    (.sfree _ 1 (.fXchg (.list [WhenS.cb0, sub])) _ rfl (by decide) rfl (Shared.next_sound rfl))
  have h8 := WhenM.Reachable.step h7 (.senterP _ 1 _ rfl (by decide) (Shared.next_sound rfl))
  have h9 := WhenM.Reachable.step h8 (.when _ (.dec 1 2) _ rfl (next_sound rfl))
  have h10 := WhenM.Reachable.step h9 (.sfree _ 1 (.fDec 5) _ rfl (by decide) rfl (Shared.next_sound rfl))
  have h11 := WhenM.Reachable.step h10
    (.sfree _ 1 (.fInvoke sub (some (.val 1))) _ rfl (by decide) rfl (Shared.next_sound rfl))
  have h12 := WhenM.Reachable.step h11 (.uprod _ 0 (.cb .cont) _ rfl (by decide) (Unique.next_sound rfl))
  have h13 := WhenM.Reachable.step h12 (.uenterP _ 0 (.val 0) _ rfl (by decide) (Unique.next_sound rfl))
  have h14 := WhenM.Reachable.step h13 (.when _ (.dec 0 1) _ rfl (next_sound rfl))
  have h15 := WhenM.Reachable.step h14 (.when _ (.dtorRel 0 0) _ rfl (next_sound rfl))
  have h16 := WhenM.Reachable.step h15 (.when _ (.dtorRel 0 1) _ rfl (next_sound rfl))
  have h17 := WhenM.Reachable.step h16
    (.when _ (.dtorSet 0 (.vec [some (.val 0), some (.val 1)])) _ rfl (next_sound rfl))
  exact ⟨_, h17, rfl, rfl, rfl⟩

end ComposedMixed

/-! ### non-vacuity: concrete workloads reach the interesting states -/

/-- vector form, FirstFail, [value, failure]: input 1 fails first and wins; the output is set while input 0 is still
    pending; input 0 is consumed and released afterwards; the last one releases the cores -/
example : ∃ s, Reachable ⟨.allVec true, [.val 0, .exc 1]⟩ s ∧ s.outSet = [.one (.exc 1)] ∧
    s.released 0 = 1 ∧ s.released 1 = 1 ∧ s.pc 0 = .done ∧ s.pc 1 = .done := by
  have h := runL_preserves (next := next ⟨.allVec true, [.val 0, .exc 1]⟩) validator_sound .init
    [.regSet 0 true,
     .regSet 1 false,  -- input 1 already complete: consumed inline
     .loadFlag 1 false, .xchgFlag 1 false,
     .setOut 1 (.one (.exc 1)),  -- input 0 still pending here
     .dec 1 2, .fire 0, .dec 0 1, .dtorRel 0 0, .dtorRel 0 1] rfl
  exact ⟨_, h, rfl, rfl, rfl, rfl, rfl⟩

/-- tuple form, None: completion order 1, 0 — slots still in index order -/
example : ∃ s, Reachable ⟨.allTuple false, [.val 0, .err 1]⟩ s ∧ s.outSet = [.vec [some (.val 0), some (.err 1)]] := by
  have h := runL_preserves (next := next ⟨.allTuple false, [.val 0, .err 1]⟩) validator_sound .init
    [.regSet 0 true, .regSet 1 true, .fire 1, .retire 1, .dec 1 2, .fire 0, .retire 0, .dec 0 1,
     .dtorSet 0 (.vec [some (.val 0), some (.err 1)])] rfl
  exact ⟨_, h, rfl⟩

/-- Join, FirstFail, a stale flag load: both inputs fail, the second one still reads `false` but loses the exchange -/
example : ∃ s, Reachable ⟨.join true, [.err 0, .err 1]⟩ s ∧ s.outSet = [.one (.err 1)] ∧ s.rmwOrder = [1, 0] := by
  have h := runL_preserves (next := next ⟨.join true, [.err 0, .err 1]⟩) validator_sound .init
    [.regSet 0 true, .regSet 1 true, .fire 0, .fire 1, .retire 0, .retire 1, .loadFlag 1 false, .xchgFlag 1 false,
     .loadFlag 0 false,  -- stale
     .xchgFlag 0 true, .setOut 1 (.one (.err 1))] rfl
  exact ⟨_, h, rfl, rfl⟩

end Yaclib.Props.C09

/-! ### tie to the source (T2): the kernels this model was written from are unchanged.
`Extracted/Kernels.lean` is regenerated from /repo on every check run. -/
namespace Yaclib.Props.C09.Tie
open Yaclib

theorem tie_When : Extracted.Kernels.When_When = Skeletons.When_When := rfl
theorem tie_Consume : Extracted.Kernels.When_Consume = Skeletons.When_Consume := rfl
theorem tie_ConsumeImpl : Extracted.Kernels.When_ConsumeImpl = Skeletons.When_ConsumeImpl := rfl
theorem tie_CombinatorCallback_Impl :
    Extracted.Kernels.When_CombinatorCallback_Impl = Skeletons.When_CombinatorCallback_Impl := rfl
theorem tie_SingleCombinator_Set : Extracted.Kernels.When_SingleCombinator_Set = Skeletons.When_SingleCombinator_Set := rfl
theorem tie_SingleCombinator_SetCore :
    Extracted.Kernels.When_SingleCombinator_SetCore = Skeletons.When_SingleCombinator_SetCore := rfl
theorem tie_SingleCombinator_Impl : Extracted.Kernels.When_SingleCombinator_Impl = Skeletons.When_SingleCombinator_Impl := rfl
theorem tie_StaticCombinator_SetCore :
    Extracted.Kernels.When_StaticCombinator_SetCore = Skeletons.When_StaticCombinator_SetCore := rfl
theorem tie_StaticCombinator_SetImpl :
    Extracted.Kernels.When_StaticCombinator_SetImpl = Skeletons.When_StaticCombinator_SetImpl := rfl
theorem tie_StaticCombinator_Set : Extracted.Kernels.When_StaticCombinator_Set = Skeletons.When_StaticCombinator_Set := rfl
theorem tie_DynamicCombinator_Set : Extracted.Kernels.When_DynamicCombinator_Set = Skeletons.When_DynamicCombinator_Set := rfl
theorem tie_All_Register : Extracted.Kernels.WhenAll_Register = Skeletons.WhenAll_Register := rfl
theorem tie_All_Consume : Extracted.Kernels.WhenAll_Consume = Skeletons.WhenAll_Consume := rfl
theorem tie_All_dtor_None : Extracted.Kernels.WhenAll_dtor_None = Skeletons.WhenAll_dtor_None := rfl
theorem tie_All_dtor_FirstFail : Extracted.Kernels.WhenAll_dtor_FirstFail = Skeletons.WhenAll_dtor_FirstFail := rfl
theorem tie_AllTuple_Consume : Extracted.Kernels.WhenAllTuple_Consume = Skeletons.WhenAllTuple_Consume := rfl
theorem tie_AllTuple_dtor_None : Extracted.Kernels.WhenAllTuple_dtor_None = Skeletons.WhenAllTuple_dtor_None := rfl
theorem tie_AllTuple_dtor_FirstFail :
    Extracted.Kernels.WhenAllTuple_dtor_FirstFail = Skeletons.WhenAllTuple_dtor_FirstFail := rfl
theorem tie_Join_Consume : Extracted.Kernels.WhenJoin_Consume = Skeletons.WhenJoin_Consume := rfl
theorem tie_Join_dtor_None : Extracted.Kernels.WhenJoin_dtor_None = Skeletons.WhenJoin_dtor_None := rfl
theorem tie_Join_dtor_FirstFail : Extracted.Kernels.WhenJoin_dtor_FirstFail = Skeletons.WhenJoin_dtor_FirstFail := rfl
theorem tie_WhenAll_front : Extracted.Kernels.WhenAll_front = Skeletons.WhenAll_front := rfl
theorem tie_Join_front : Extracted.Kernels.Join_front = Skeletons.Join_front := rfl
theorem tie_AtomicCounter_SubEqual : Extracted.Kernels.AtomicCounter_SubEqual = Skeletons.AtomicCounter_SubEqual := rfl
theorem tie_Helper_DecRef : Extracted.Kernels.Helper_DecRef = Skeletons.Helper_DecRef := rfl
theorem tie_GetCallbackHelper :
    Extracted.Kernels.When_StaticCombinator_GetCallbackHelper = Skeletons.When_StaticCombinator_GetCallbackHelper := rfl
theorem tie_StaticCombinator_InitImpl :
    Extracted.Kernels.When_StaticCombinator_InitImpl = Skeletons.When_StaticCombinator_InitImpl := rfl
theorem tie_CombinatorCallback_Here : Extracted.Kernels.When_CombinatorCallback_Here = Skeletons.When_CombinatorCallback_Here := rfl
theorem tie_SingleCombinator_Here : Extracted.Kernels.When_SingleCombinator_Here = Skeletons.When_SingleCombinator_Here := rfl
theorem tie_TranslateIndexImpl_Index :
    Extracted.Kernels.TypeTraits_TranslateIndexImpl_Index = Skeletons.TypeTraits_TranslateIndexImpl_Index := rfl
theorem tie_IndexOf_Index : Extracted.Kernels.TypeTraits_IndexOf_Index = Skeletons.TypeTraits_IndexOf_Index := rfl
/-! whole-declaration source ties (comments and white space dropped): policy constants, callback tuples and node lookup
    (`translate_index_v` vs `index_of_v`), the alias that selects the combinator type, member initialisers, metafunctions -/
theorem tie_src_when_hpp : Extracted.Kernels.WhenSrc_when_hpp = Skeletons.WhenSrc_when_hpp := rfl
theorem tie_src_combinator_strategy_hpp :
    Extracted.Kernels.WhenSrc_combinator_strategy_hpp = Skeletons.WhenSrc_combinator_strategy_hpp := rfl
theorem tie_src_fail_policy_hpp : Extracted.Kernels.WhenSrc_fail_policy_hpp = Skeletons.WhenSrc_fail_policy_hpp := rfl
theorem tie_src_type_traits_inputs : Extracted.Kernels.WhenSrc_type_traits_inputs = Skeletons.WhenSrc_type_traits_inputs := rfl
theorem tie_src_type_traits_tuples : Extracted.Kernels.WhenSrc_type_traits_tuples = Skeletons.WhenSrc_type_traits_tuples := rfl
theorem tie_src_all_hpp : Extracted.Kernels.WhenSrc_all_hpp = Skeletons.WhenSrc_all_hpp := rfl
theorem tie_src_all_tuple_hpp : Extracted.Kernels.WhenSrc_all_tuple_hpp = Skeletons.WhenSrc_all_tuple_hpp := rfl
theorem tie_src_join_hpp : Extracted.Kernels.WhenSrc_join_hpp = Skeletons.WhenSrc_join_hpp := rfl
theorem tie_src_when_all_hpp : Extracted.Kernels.WhenSrc_when_all_hpp = Skeletons.WhenSrc_when_all_hpp := rfl
theorem tie_src_async_join_hpp : Extracted.Kernels.WhenSrc_async_join_hpp = Skeletons.WhenSrc_async_join_hpp := rfl

end Yaclib.Props.C09.Tie
