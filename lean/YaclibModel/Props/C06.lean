/-
C06 — SharedFuture: every observer sees the one value once, never before it exists.

Property theorems about the model `Yaclib.Shared` (Model/Shared.lean) for **every** workload: any number of
observer threads, any operation list per observer (attach inline / via executor / wait / Connect-Share-Split target /
When-style retire, Get const&, Get &&, Ready, Ready-then-Touch, copy, destroy), either way the SharedPromise ends,
every interleaving at atomic-operation granularity, spurious weak-CAS failures and stale pre-check loads included.
Helper lemmas and the inductive invariants are in Proofs/Shared*.lean.

`ready_sound` holds since /repo c9c07bc (defect D3 of the pinned tree: see the comment in the Ready() section).
-/
import YaclibModel.Base.Run
import YaclibModel.Proofs.SharedProgress
import YaclibModel.Extracted.Kernels
import YaclibModel.Model.Skeletons

namespace Yaclib.Props.C06
open Yaclib.Shared

variable {w : Workload} {s : State}

/-! ### every registered callback / awaiter fires exactly once, and only after the value is stored -/

/-- conservation: a callback object that was handed to `SetCallback` is — counted with multiplicity — in exactly
    one place: fired, pending in the word's list, in the list the fulfiller is walking, still in its owner's hands
    (being pushed or being run inline), or in an executor's hands -/
theorem conservation (h : Reachable w s) (c : Cb) :
    s.registered.count c =
      (firedIds s).count c + (wordList s.word).count c + (walkList s.fpc).count c + s.inflight.count c + s.jobs.count c :=
  (inv_reachable h).c.conserve c

theorem registered_nodup (h : Reachable w s) : s.registered.Nodup :=
  List.nodup_iff_count.mpr (inv_reachable h).c.nodup

/-- no callback fires twice -/
theorem fired_once (h : Reachable w s) : (firedIds s).Nodup := by
  apply List.nodup_iff_count.mpr
  intro c
  have h1 := conservation h c
  have h2 := (inv_reachable h).c.nodup c
  omega

/-- nothing fires that was not attached -/
theorem fired_registered (h : Reachable w s) {c : Cb} (hc : c ∈ firedIds s) : c ∈ s.registered := by
  have h1 := conservation h c
  have : 0 < (firedIds s).count c := List.count_pos_iff.mpr hc
  exact List.count_pos_iff.mp (by omega)

/-- a fired callback is not pending anywhere any more (in particular it is not in the word's list, so it cannot be
    fired again by the fulfiller) -/
theorem fired_not_pending (h : Reachable w s) {c : Cb} (hc : c ∈ firedIds s) :
    c ∉ wordList s.word ∧ c ∉ walkList s.fpc ∧ c ∉ s.inflight ∧ c ∉ s.jobs := by
  have h1 := conservation h c
  have h2 := (inv_reachable h).c.nodup c
  have : 0 < (firedIds s).count c := List.count_pos_iff.mpr hc
  refine ⟨?_, ?_, ?_, ?_⟩ <;> (intro hm; have := List.count_pos_iff.mpr hm; omega)

/-- never early, never torn (at the interleaving level): whatever fired saw constructed storage holding exactly
    the Result that was set (`StopError` if the SharedPromise was dropped unset) -/
theorem fired_after_store (h : Reachable w s) : ∀ x ∈ s.fired, x.2 = some w.prod.res :=
  (inv_reachable h).a.fired_val

/-- before the fulfiller's exchange nothing has fired and the storage is unconstructed; afterwards it holds the result -/
theorem nothing_fires_before_set (h : Reachable w s) (hp : s.fpc = .start) : s.fired = [] ∧ s.stored = none := by
  have hi := (inv_reachable h).a
  refine ⟨?_, by rw [hi.stored_eq, if_pos hp]⟩
  cases hf : s.fired with
  | nil => rfl
  | cons x r => exact absurd hp (hi.fired_after x (by rw [hf]; simp))

theorem result_word_means_stored (h : Reachable w s) (hw : s.word = .result) : s.stored = some w.prod.res := by
  have hi := (inv_reachable h).a
  rw [hi.stored_eq, if_neg (hi.word_iff.mp hw)]

theorem dropped_promise_delivers_stop_error (h : Reachable w s) (hd : w.prod = .drop) :
    ∀ x ∈ s.fired, x.2 = some .err := by
  intro x hx; rw [fired_after_store h x hx, hd]; rfl

/-- `Get() const&` and `Get() &&` return the Result that was set -/
theorem getc_returns_set (h : Reachable w s) : ∀ x ∈ s.getcObs, x.2 = some w.prod.res := (inv_reachable h).a.getc_val
theorem get_returns_set (h : Reachable w s) : ∀ x ∈ s.got, x.2.1 = some w.prod.res := (inv_reachable h).a.got_val

/-! ### nothing is lost -/

/-- Safety form of "every attached callback eventually fires, nobody waits forever": in every state in which no
    thread can take a step the fulfiller has finished, no job is pending, every observer is idle (and has either
    finished its program or has no SharedFuture left to continue with), nothing is in flight and every registered
    callback has fired **exactly once**. -/
theorem quiescent_complete (h : Reachable w s) (hq : ∀ l s', ¬ Step s l s') :
    s.fpc = .dec 0 ∧ s.jobs = [] ∧ s.jobsRun = [] ∧ s.inflight = [] ∧
    (∀ t, (s.obs t).pc = .idle ∧ ((s.obs t).todo = [] ∨ (s.obs t).refs = 0)) ∧
    (∀ c ∈ s.registered, (firedIds s).count c = 1) := by
  have hi := inv_reachable h
  refine ⟨ful_done_of_quiescent hi hq, (jobs_nil_of_quiescent hq).1, (jobs_nil_of_quiescent hq).2,
    inflight_nil_of_quiescent hi hq, obs_done_of_quiescent hi hq, ?_⟩
  intro c hc
  have h1 := fired_of_quiescent hi hq c
  have h2 := hi.c.nodup c
  have : 0 < s.registered.count c := List.count_pos_iff.mpr hc
  omega

/-! ### a push fails iff the result is present -/

/-- a successful push happens only while the result is absent and puts the callback at the head of the list … -/
theorem push_succeeds_only_without_result (_h : Reachable w s) {t : Nat} {s' : State} (hs : Step s (.oCasOk t) s') :
    s.word ≠ .result ∧ ∃ c e, s.word = .list e ∧ s'.word = .list (c :: e) := by
  cases hs with
  | oCasOk _ c e hp hw =>
      refine ⟨by rw [hw]; simp, c, e, hw, ?_⟩
      simp only [doCasOk]; split <;> (try split) <;> rfl

/-- … `SetCallbackImpl` returns false (the loop is left through `next == kResult`) only if the result is present;
    the observer then runs its callback itself (`run`) or, for a waiter, does not wait at all — and that callback
    also fires exactly once, by `fired_once` / `quiescent_complete` … -/
theorem push_fails_only_with_result (_h : Reachable w s) {t : Nat} {l : Label} {s' : State} (hs : Step s l s')
    (hl : l = .oLoad t .result ∨ l = .oCasFail t .result ∨ l = .oCasSpur t .result) : s.word = .result := by
  rcases hl with hl | hl | hl <;> subst hl <;> cases hs <;> assumption

/-- … and once the result is present it stays, so every later push fails -/
theorem result_is_final (_h : Reachable w s) {l : Label} {s' : State} (hs : Step s l s') (hw : s.word = .result) :
    s'.word = .result := by
  cases hs with
  | fXchg l hp hw' => rfl
  | oCasOk _ c e hp hw' => rw [hw] at hw'; cases hw'
  | oLoad _ op rest k x hp ht hk hr hx => cases x <;> simp only [doLoad, reload, failPath] <;> (try split) <;> exact hw
  | oCasFail _ c e x hp hw' hx => cases x <;> simp only [reload, failPath] <;> (try split) <;> exact hw
  | oCasSpur _ c e x hp hw' hx => cases x <;> simp only [reload, failPath] <;> (try split) <;> exact hw
  | _ => exact hw

/-! ### the reference counter: who holds what, the core is freed exactly once and never touched afterwards -/

/-- every reference is accounted for: the promise's (3, released one by one around the last callback), those of the
    observers (`holders` = Σ refs, see `holders_is_sum`), of submitted executor jobs and of When-style callbacks —
    while they sit in a list, and after they were entered until their combinator has called `Retire()` -/
theorem count_accounts (h : Reachable w s) :
    s.count = promRefs s.fpc + s.holders + s.jobs.length + s.jobsRun.length
      + retCnt (wordList s.word) + retCnt (walkList s.fpc) + s.rets.length + s.retsLd.length := (inv_reachable h).r.cnt

theorem holders_is_sum (h : Reachable w s) : s.holders = holdSum s.obs s.n := (inv_reachable h).z.sum

/-- the core is deleted at most once, and exactly when the counter has reached zero -/
theorem freed_at_most_once (h : Reachable w s) : s.freed ≤ 1 := by
  rw [(inv_reachable h).r.freed_eq]; split <;> omega

theorem freed_iff_count_zero (h : Reachable w s) : s.freed = 1 ↔ s.count = 0 := by
  rw [(inv_reachable h).r.freed_eq]; split <;> simp_all

/-- no use after free: once the core has been deleted NO step of the model is enabled any more — every step
    touches the core (its word, its counter or its result) or is made by a thread that still owns a reference -/
theorem no_use_after_free (h : Reachable w s) (hf : 0 < s.freed) : ∀ l s', ¬ Step s l s' := by
  have hi := inv_reachable h
  have hc : s.count = 0 := by
    have := hi.r.freed_eq; split at this <;> omega
  have hcnt := hi.r.cnt
  rw [hc] at hcnt
  have hh : s.holders = 0 := by omega
  have hj : s.jobs = [] := List.eq_nil_of_length_eq_zero (by omega)
  have hjr : s.jobsRun = [] := List.eq_nil_of_length_eq_zero (by omega)
  have hpr : promRefs s.fpc = 0 := by omega
  have hr0 : ∀ t, (s.obs t).refs = 0 := fun t => by have := hi.z.le t; omega
  have hidle : ∀ t, (s.obs t).pc = .idle := fun t => by
    apply Classical.byContradiction; intro hne
    have := hi.z.busy t hne; have := hr0 t; omega
  intro l s' hs
  cases hs with
  | fXchg l hp hw => rw [hp] at hpr; simp at hpr
  | fDec1 c hp => rw [hp] at hpr; simp at hpr
  | fInvoke c rest d hp hk hf => rw [hp] at hpr; revert hpr; cases d <;> simp
  | fSet c rest d hp hk hf => rw [hp] at hpr; revert hpr; cases d <;> simp
  | fIncRef c rest d hp hk hf => rw [hp] at hpr; revert hpr; cases d <;> simp
  | fSubmit c rest d hp => rw [hp] at hpr; revert hpr; cases d <;> simp
  | fRefLoad c rest d hp hk hf => rw [hp] at hpr; revert hpr; cases d <;> simp
  | fTargetDec c rest d hp hk => rw [hp] at hpr; revert hpr; cases d <;> simp
  | fForward c rest d n hp hk hn => rw [hp] at hpr; revert hpr; cases d <;> simp
  | fForwardPost c rest d hp hk => rw [hp] at hpr; revert hpr; cases d <;> simp
  | fEnter c rest d hp hk hf => rw [hp] at hpr; revert hpr; cases d <;> simp
  | rRefLoad c hm => have : s.rets = [] := List.eq_nil_of_length_eq_zero (by omega); rw [this] at hm; simp at hm
  | rRetire c n hm => have : s.retsLd = [] := List.eq_nil_of_length_eq_zero (by omega); rw [this] at hm; simp at hm
  | fDec k hp => rw [hp] at hpr; simp at hpr
  | jInvoke c hm => rw [hj] at hm; simp at hm
  | jDec c hm => rw [hjr] at hm; simp at hm
  | oLoad t op rest k x hp ht hk hr hx => have := hr0 t; omega
  | oRdLoad t op rest x hp ht hop hr hx => have := hr0 t; omega
  | oCopy t rest hp ht hr => have := hr0 t; omega
  | oDrop t rest hp ht hr => have := hr0 t; omega
  | oCasOk t c e hp hw => have := hidle t; rw [hp] at this; cases this
  | oCasFail t c e x hp hw hx => have := hidle t; rw [hp] at this; cases this
  | oCasSpur t c e x hp hw hx => have := hidle t; rw [hp] at this; cases this
  | oInvoke t c hp hk => have := hidle t; rw [hp] at this; cases this
  | oIncRef t c hp hk => have := hidle t; rw [hp] at this; cases this
  | oSubmit t c hp => have := hidle t; rw [hp] at this; cases this
  | oForward t c hp hk => have := hidle t; rw [hp] at this; cases this
  | oEnter t c hp hk => have := hidle t; rw [hp] at this; cases this
  | oWaited t c rest hp ht hf => have := hidle t; rw [hp] at this; cases this
  | oGetc t c rest hp ht hf => have := hidle t; rw [hp] at this; cases this
  | oGetRef t c rest hp ht hf => have := hidle t; rw [hp] at this; cases this
  | oGot t n hp => have := hidle t; rw [hp] at this; cases this
  | oReady t x hp => have := hidle t; rw [hp] at this; cases this
  | oTouch t hp => have := hidle t; rw [hp] at this; cases this

theorem holdSum_zero (f : Nat → Obs) (n : Nat) (h : ∀ t, (f t).refs = 0) : holdSum f n = 0 := by
  induction n with
  | zero => rfl
  | succ k ih => simp [holdSum, ih, h k]

/-- … and it IS freed: in a quiescent state in which every observer has destroyed all its copies the core has been
    deleted (exactly once, by `freed_at_most_once`) -/
theorem quiescent_released (h : Reachable w s) (hq : ∀ l s', ¬ Step s l s') (hr : ∀ t, (s.obs t).refs = 0) :
    s.count = 0 ∧ s.freed = 1 := by
  have hi := inv_reachable h
  obtain ⟨hf, hj, hjr, _, _, _⟩ := quiescent_complete h hq
  obtain ⟨hrt, hrl⟩ := rets_nil_of_quiescent hq
  have hw : s.word = .result := hi.a.word_iff.mpr (by rw [hf]; simp)
  have hcnt := hi.r.cnt
  have hh : s.holders = 0 := by rw [hi.z.sum]; exact holdSum_zero _ _ hr
  rw [hf, hj, hjr, hw, hh, hrt, hrl] at hcnt
  simp at hcnt
  exact ⟨hcnt, (freed_iff_count_zero h).mpr hcnt⟩

/-! ### moving the value out -/

/-- `Get() &&` moves the value out only when the counter it read was 1, and then that observer's is the only reference
    in existence: the promise has released all three of its references, no executor job holds one, no combinator
    callback is waiting in a list or for its `Retire()`, and **no other observer holds a SharedFuture** -/
theorem observer_moves_only_as_sole_owner (h : Reachable w s) {l : Label} {s' : State} (hs : Step s l s') {t : Nat}
    (hl : ∃ r, l = .oGot t r true) :
    s.count = 1 ∧ s.fpc = .dec 0 ∧ s.jobs = [] ∧ s.jobsRun = [] ∧ s.rets = [] ∧ s.retsLd = [] ∧ (s.obs t).refs = 1 ∧
    ∀ t', t' ≠ t → (s.obs t').refs = 0 := by
  have hi := inv_reachable h
  obtain ⟨r, hl⟩ := hl
  cases hs with
  | oGot t' n hp =>
      injection hl with h1 h2 h3
      subst h1
      have hn : n = 1 := by simpa using h3
      have hc := (hi.r.o_got t' n hp).2 hn
      have hpos := hi.z.busy t' (by rw [hp]; simp)
      have hcnt := hi.r.cnt
      have hle := hi.z.le t'
      rw [hc] at hcnt
      have hpr : promRefs s.fpc = 0 := by omega
      have hfp : s.fpc = .dec 0 := by
        cases hp : s.fpc with
        | start => rw [hp] at hpr; simp at hpr
        | walk l d st => rw [hp] at hpr; revert hpr; cases d <;> simp
        | dec n => rw [hp] at hpr; simp at hpr; rw [hpr]
      refine ⟨hc, hfp, List.eq_nil_of_length_eq_zero (by omega), List.eq_nil_of_length_eq_zero (by omega),
        List.eq_nil_of_length_eq_zero (by omega), List.eq_nil_of_length_eq_zero (by omega), by omega, ?_⟩
      intro t'' hne
      have := hi.z.two hne
      omega
  | _ => cases hl

/-- `Retire()` — whenever after the entry, on whatever thread the combinator calls it — moves the value out only when the
    counter it read was 1, and then the combinator's is the only reference in existence: promise done, no job, no other
    combinator callback, **no observer holds a SharedFuture**.  In every other case it copies. -/
theorem retire_moves_only_as_sole_owner (h : Reachable w s) {s' : State} {c : Cb} {r : Option Res} {mv : Bool} {n : Nat}
    (hs : Step s (.rRetire c r mv n) s') (hmv : mv = true) :
    s.count = 1 ∧ s.fpc = .dec 0 ∧ s.jobs = [] ∧ s.jobsRun = [] ∧ s.rets = [] ∧ s.retsLd.length = 1 ∧
    ∀ t, (s.obs t).refs = 0 := by
  have hi := inv_reachable h
  cases hs with
  | rRetire _ m hm =>
      have hn : m = 1 := by simpa using hmv
      have hc := (hi.r.ld_refd c m hm).2 hn
      have hcnt := hi.r.cnt
      have hlen : 0 < s.retsLd.length := List.length_pos_of_mem hm
      rw [hc] at hcnt
      have hpr : promRefs s.fpc = 0 := by omega
      have hfp : s.fpc = .dec 0 := by
        cases hp : s.fpc with
        | start => rw [hp] at hpr; simp at hpr
        | walk l d st => rw [hp] at hpr; revert hpr; cases d <;> simp
        | dec n => rw [hp] at hpr; simp at hpr; rw [hpr]
      refine ⟨hc, hfp, List.eq_nil_of_length_eq_zero (by omega), List.eq_nil_of_length_eq_zero (by omega),
        List.eq_nil_of_length_eq_zero (by omega), by omega, ?_⟩
      intro t; have := hi.z.le t; omega

/-- in particular a `Retire()` made while the fulfiller has not finished (e.g. at once inside `Here`, as the Managed
    strategies do) always copies -/
theorem retire_before_fulfiller_done_copies (h : Reachable w s) {s' : State} {c : Cb} {r : Option Res} {mv : Bool} {n : Nat}
    (hs : Step s (.rRetire c r mv n) s') (hp : s.fpc ≠ .dec 0) : mv = false := by
  cases hmv : mv with
  | false => rfl
  | true => exact absurd (retire_moves_only_as_sole_owner h hs hmv).2.1 hp

/-- `Retire()` returns the Result that was set -/
theorem retire_returns_set (h : Reachable w s) : ∀ x ∈ s.retired, x.2.1 = some w.prod.res :=
  (inv_reachable h).a.retired_val

/-- a combinator callback retires only after it was entered, and it was entered only after the fulfilment -/
theorem pending_retire_was_entered_after_set (h : Reachable w s) :
    (∀ c ∈ s.rets, s.word = .result) ∧ (∀ x ∈ s.retsLd, s.word = .result) := by
  have hi := (inv_reachable h).a
  exact ⟨fun c hc => hi.word_iff.mpr (hi.rets_after c hc), fun x hx => hi.word_iff.mpr (hi.retsLd_after x hx)⟩

/-- at quiescence no `Retire()` is pending -/
theorem quiescent_no_pending_retire (_h : Reachable w s) (hq : ∀ l s', ¬ Step s l s') : s.rets = [] ∧ s.retsLd = [] :=
  rets_nil_of_quiescent hq

/-- the fulfiller (running a Connect/Share/Split target as the LAST callback) moves the value out only when the
    counter it read was 2 = the promise's own two remaining references: no observer holds a SharedFuture, no job and
    no When-style callback holds a reference -/
theorem fulfiller_moves_only_without_holders (h : Reachable w s) {s' : State} {c : Cb} {r : Option Res} {mv : Bool}
    (hs : Step s (.fForward c r mv) s') (hmv : mv = true) :
    s.count = 2 ∧ s.jobs = [] ∧ s.jobsRun = [] ∧ walkList s.fpc = [c] ∧ ∀ t, (s.obs t).refs = 0 := by
  have hi := inv_reachable h
  cases hs with
  | fForwardPost _ rest d hp hk => exact absurd hp (hi.r.f_post _ _)
  | fForward _ rest d n hp hk hn =>
      have hlt : n < 3 := by simpa using hmv
      have hr := hi.r.f_refd c rest d n hp
      have hn2 : n = 2 := by omega
      have hc := hr.2 hn2
      have hcnt := hi.r.cnt
      have hne := hi.a.walk_ne _ _ _ hp
      have hd : d = true → rest = [] := by simpa using hne.2.1
      have hcf : rest = [] → d = true := by simpa [canFire] using hne.2.2 (by simp)
      rw [hc, hp] at hcnt
      simp only [promRefs_walk, walkList_walk, retCnt_cons] at hcnt
      have hdt : d = true := by
        cases d with
        | true => rfl
        | false => simp at hcnt; omega
      have hrest := hd hdt
      subst hdt; subst hrest
      simp at hcnt
      have hj : s.jobs = [] := List.eq_nil_of_length_eq_zero (by omega)
      have hjr : s.jobsRun = [] := List.eq_nil_of_length_eq_zero (by omega)
      refine ⟨hc, hj, hjr, by rw [hp]; rfl, ?_⟩
      intro t; have := hi.z.le t; omega

/-- the `if (ref == 1) caller.DecRef()` branch of `ResultCore::Impl` is dead when the caller is a shared core -/
theorem target_never_sees_ref_one (h : Reachable w s) : ∀ l d, s.fpc ≠ .walk l d (.refd 1) ∧ s.fpc ≠ .walk l d .post := by
  intro l d
  refine ⟨?_, (inv_reachable h).r.f_post l d⟩
  intro hp
  cases l with
  | nil => exact absurd rfl ((inv_reachable h).a.walk_ne _ _ _ hp).1
  | cons c rest => have := ((inv_reachable h).r.f_refd c rest d 1 hp).1; omega

/-- after a move-out nobody reads the value any more (sequentially consistent level; that the reads made *before*
    the move happen-before it is the memory-model matter D9 / C04) -/
theorem no_read_after_moveout (h : Reachable w s) (hm : s.movedOut = true) {l : Label} {s' : State} (hs : Step s l s') :
    l.reads = false := by
  have hi := inv_reachable h
  obtain ⟨hwalk, hstart, hj, hjr, _, _, hrl⟩ := hi.r.moved hm
  have hobs : ∀ t, (s.obs t).pc ≠ .idle → False := fun t hne => hne (hi.r.moved_obs t hm (hi.z.busy t hne)).1
  cases hs with
  | fInvoke c rest d hp hk hf => exact absurd hp (hwalk _ _ _)
  | fForward c rest d n hp hk hn => exact absurd hp (hwalk _ _ _)
  | fForwardPost c rest d hp hk => exact absurd hp (hwalk _ _ _)
  | rRetire c n hmem => rw [hrl] at hmem; simp at hmem
  | jInvoke c hmem => rw [hj] at hmem; simp at hmem
  | oInvoke t c hp hk => exact (hobs t (by rw [hp]; simp)).elim
  | oForward t c hp hk => exact (hobs t (by rw [hp]; simp)).elim
  | oGetc t c rest hp ht hf => exact (hobs t (by rw [hp]; simp)).elim
  | oGot t n hp => exact (hobs t (by rw [hp]; simp)).elim
  | oTouch t hp => exact (hobs t (by rw [hp]; simp)).elim
  | _ => rfl

/-- and the value is moved out at most once -/
theorem no_second_moveout (h : Reachable w s) (hm : s.movedOut = true) {l : Label} {s' : State} (hs : Step s l s') :
    l.moves = false := by
  have := no_read_after_moveout h hm hs
  cases l <;> simp_all [Label.reads, Label.moves]

/-! ### Ready()

`SharedFutureBase::Ready()` is `BaseCore::Ready()`: one acquire load of the word, true iff it returned kResult
(`Step.oReady` reports `decide (x = .result)` for the loaded value `x`, which `readyObs` records together with
"was the storage constructed at the moment of the report"). -/

/-- `Ready() == true` ⇒ the storage is constructed — in every reachable state of every workload, stale loads included -/
theorem ready_sound (h : Reachable w s) : ∀ x ∈ s.readyObs, x.1 = .result → x.2 = true :=
  (inv_reachable h).a.ready_obs

/-- the same at the step that reports: whenever `Ready()` returns true the storage holds exactly the Result that was set -/
theorem ready_true_means_stored (h : Reachable w s) {l : Label} {s' : State} (hs : Step s l s') {t : Nat}
    (hl : l = .oReady t true) : s.word = .result ∧ s.stored = some w.prod.res := by
  have hi := (inv_reachable h).a
  cases hs with
  | oReady t' x hp =>
      injection hl with h1 h2
      subst h1
      have hx : x = .result := by simpa using h2
      subst hx
      have hne := hi.rep_res t' hp
      exact ⟨hi.word_iff.mpr hne, by rw [hi.stored_eq, if_neg hne]⟩
  | _ => cases hl

/-- the `Touch()` that `Ready() == true` licenses reads the Result that was set (never unconstructed storage) -/
theorem touch_reads_set (h : Reachable w s) : ∀ x ∈ s.touchObs, x = some w.prod.res :=
  (inv_reachable h).a.touch_val

/-- hence the validator's rules `oReady.true.unset` and `oTouch.none` are unreachable -/
theorem touch_never_reads_unconstructed (h : Reachable w s) : none ∉ s.touchObs := by
  intro hm; have := touch_reads_set h none hm; cases this

/-
Defect D3 of the pinned tree, fixed by /repo c9c07bc. Before the fix `Ready()` was `!_core->Empty()`, i.e. "the word is
not kEmpty", which for a shared core is also true while callbacks are merely registered; `ready_sound` was false and
this file contained the negation on a witness instead:

    theorem ready_sound_violated_witness :
        ∃ (w : Workload) (s : State), Reachable w s ∧ s.fpc = .start ∧ s.stored = none ∧
          (∃ x ∈ s.readyObs, x.1 ≠ .list [] ∧ x.2 = false) ∧ none ∈ s.touchObs
    -- w = ⟨.set (.val 42), [[.attach .inl, .drop], [.readyTouch, .drop]]⟩, run through `next`:
    --   oLoad 0 (.list []) ; oCasOk 0 ; oRdLoad 1 (.list [c0]) ; oReady 1 true ; oTouch 1 none

Exhibited by this check on the real library before the fix (3 827 of 520 936 quick executions):
    scenario: shared prod=set:42 exec=now o0=sub_inline,drop o1=ready_touch,drop
    choices:  k1/3 p0/2 p0/2 w0/2 p0/2 p0/2 k1/2 p0/2 p0/2 p0/2
    trace:    o0 A w load acq - -> empty | o0 A w cas_weak rel/acq empty>cb0 -> ok | o0 A cnt fsub rel 1 -> 5 |
              o1 A w load acq - -> cb0 | o1 E ready 1 | o1 E touch none | o1 A cnt fsub rel 1 -> 4 |
              p A w xchg acq_rel result -> cb0 | p A cnt fsub rel 1 -> 3 | p E invoke o0.0 val:42 | …
The harness monitor "Ready() == true ⇒ Touch() reads the set value" is unchanged and must stay quiet now.
-/

/-- everything the trace validator accepts is a behaviour the theorems speak about -/
theorem validator_sound {l : Label} {s' : State} (h : Reachable w s) (hn : next s l = some s') : Reachable w s' :=
  .step h (next_sound hn)

/-! ### non-vacuity: concrete workloads reach the interesting states -/

/-- two observers push (LIFO), then Set: the fulfiller fires the head first, drops one reference, fires the last;
    both see 42; after the observers destroyed their copies the core is freed -/
example : ∃ s, Reachable ⟨.set (.val 42), [[.attach .inl, .drop], [.attach .inl, .drop]]⟩ s ∧
    s.fired = [(⟨1, 0, .inl⟩, some (.val 42)), (⟨0, 0, .inl⟩, some (.val 42))] ∧ s.count = 0 ∧ s.freed = 1 := by
  let w : Workload := ⟨.set (.val 42), [[.attach .inl, .drop], [.attach .inl, .drop]]⟩
  let c0 : Cb := ⟨0, 0, .inl⟩
  let c1 : Cb := ⟨1, 0, .inl⟩
  have h : Reachable w _ := runL_preserves (next := next) validator_sound .init
    [.oLoad 0 (.list []), .oCasOk 0, .oLoad 1 (.list [c0]), .oCasOk 1, .fXchg (.list [c1, c0]),
     .fInvoke c1 (some (.val 42)), .fDec 5, .fInvoke c0 (some (.val 42)), .fDec 4, .fDec 3, .oDrop 0 2,
     .oDrop 1 1] rfl
  exact ⟨_, h, rfl, rfl, rfl⟩

/-- Set first; `Then(e, f)` then finds the result — after a stale pre-check load and a failed CAS — takes a
    reference for its job and submits it; the job outlives every SharedFuture and frees the core itself -/
example : ∃ s, Reachable ⟨.set (.val 42), [[.attach .exec, .drop]]⟩ s ∧
    s.fired = [(⟨0, 0, .exec⟩, some (.val 42))] ∧ s.count = 0 ∧ s.freed = 1 := by
  let w : Workload := ⟨.set (.val 42), [[.attach .exec, .drop]]⟩
  let c : Cb := ⟨0, 0, .exec⟩
  have h : Reachable w _ := runL_preserves (next := next) validator_sound .init
    [.fXchg (.list []),
     .oLoad 0 (.list []),  -- stale
     .oCasFail 0 .result, .oIncRef 0 4, .oSubmit 0 c, .fDec 5, .fDec 4, .fDec 3, .oDrop 0 2,
     .jInvoke c (some (.val 42)), .jDec c 1] rfl
  exact ⟨_, h, rfl, rfl, rfl⟩

/-- `std::move(sf).Get()` by the last holder after the promise is completely done: GetRef() == 1, the value is moved -/
example : ∃ s, Reachable ⟨.set (.val 42), [[.getMove]]⟩ s ∧ s.got = [(0, some (.val 42), true)] ∧
    s.movedOut = true ∧ s.freed = 1 := by
  have h : Reachable ⟨.set (.val 42), [[.getMove]]⟩ _ := runL_preserves (next := next) validator_sound .init
    [.fXchg (.list []), .fDec 4, .fDec 3, .fDec 2, .oLoad 0 .result, .oGetRef 0 1, .oGot 0 (some (.val 42)) true,
     .oDrop 0 1] rfl
  exact ⟨_, h, rfl, rfl, rfl⟩

/-- Connect/Share target attached, the future destroyed, then Set: the target is the last callback, the fulfiller reads
    GetRef() == 2 after its first DecRef and moves the value into the target -/
example : ∃ s, Reachable ⟨.drop, [[.attach .target, .drop]]⟩ s ∧ s.fired = [(⟨0, 0, .target⟩, some .err)] ∧
    s.movedOut = true ∧ s.freed = 1 := by
  let w : Workload := ⟨.drop, [[.attach .target, .drop]]⟩
  let c : Cb := ⟨0, 0, .target⟩
  have h : Reachable w _ := runL_preserves (next := next) validator_sound .init
    [.oLoad 0 (.list []),
     .oCasSpur 0 (.list []),  -- a spurious failure of the weak CAS
     .oCasOk 0, .oDrop 0 4, .fXchg (.list [c]), .fDec 3, .fRefLoad 2, .fForward c (some .err) true, .fDec 2,
     .fDec 1] rfl
  exact ⟨_, h, rfl, rfl, rfl⟩

/-- a combinator callback (Owned strategy): entered by the fulfiller's walk, `Retire()` only after the fulfiller has
    finished — by then the combinator's is the last reference, so the value is moved and the core freed -/
example : ∃ s, Reachable ⟨.set (.val 42), [[.attach .retire]]⟩ s ∧ s.fired = [(⟨0, 0, .retire⟩, some (.val 42))] ∧
    s.retired = [(⟨0, 0, .retire⟩, some (.val 42), true)] ∧ s.movedOut = true ∧ s.freed = 1 := by
  let w : Workload := ⟨.set (.val 42), [[.attach .retire]]⟩
  let c : Cb := ⟨0, 0, .retire⟩
  have h : Reachable w _ := runL_preserves (next := next) validator_sound .init
    [.oLoad 0 (.list []), .oCasOk 0, .fXchg (.list [c]), .fDec 4, .fEnter c, .fDec 3, .fDec 2, .rRefLoad c 1,
     .rRetire c (some (.val 42)) true 1] rfl
  exact ⟨_, h, rfl, rfl, rfl, rfl⟩

end Yaclib.Props.C06

/-! ### tie to the source (T2): the kernels this model was written from are unchanged.
`Extracted/Kernels.lean` is regenerated from /repo on every check run. -/
namespace Yaclib.Props.C06.Tie
open Yaclib

theorem tie_BaseCore_SetCallbackImpl : Extracted.Kernels.BaseCore_SetCallbackImpl = Skeletons.BaseCore_SetCallbackImpl := rfl
theorem tie_BaseCore_SetInlineImpl : Extracted.Kernels.BaseCore_SetInlineImpl = Skeletons.BaseCore_SetInlineImpl := rfl
theorem tie_BaseCore_SetResultImpl : Extracted.Kernels.BaseCore_SetResultImpl = Skeletons.BaseCore_SetResultImpl := rfl
theorem tie_BaseCore_Empty : Extracted.Kernels.BaseCore_Empty = Skeletons.BaseCore_Empty := rfl
theorem tie_BaseCore_Ready : Extracted.Kernels.BaseCore_Ready = Skeletons.BaseCore_Ready := rfl
theorem tie_ResultCore_Impl : Extracted.Kernels.ResultCore_Impl = Skeletons.ResultCore_Impl := rfl
theorem tie_Core_Impl : Extracted.Kernels.Core_Impl = Skeletons.Core_Impl := rfl
theorem tie_Core_Done : Extracted.Kernels.Core_Done = Skeletons.Core_Done := rfl
theorem tie_Core_Call : Extracted.Kernels.Core_Call = Skeletons.Core_Call := rfl
theorem tie_SharedCore_Retire : Extracted.Kernels.SharedCore_Retire = Skeletons.SharedCore_Retire := rfl
theorem tie_SharedCore_Here : Extracted.Kernels.SharedCore_Here = Skeletons.SharedCore_Here := rfl
theorem tie_SharedCore_SetCallback : Extracted.Kernels.SharedCore_SetCallback = Skeletons.SharedCore_SetCallback := rfl
theorem tie_SharedCore_SetInline : Extracted.Kernels.SharedCore_SetInline = Skeletons.SharedCore_SetInline := rfl
theorem tie_SharedCore_SetResult : Extracted.Kernels.SharedCore_SetResult = Skeletons.SharedCore_SetResult := rfl
theorem tie_SharedFutureBase_Ready : Extracted.Kernels.SharedFutureBase_Ready = Skeletons.SharedFutureBase_Ready := rfl
theorem tie_SharedFutureBase_GetMove : Extracted.Kernels.SharedFutureBase_GetMove = Skeletons.SharedFutureBase_GetMove := rfl
theorem tie_SharedFutureBase_GetConst : Extracted.Kernels.SharedFutureBase_GetConst = Skeletons.SharedFutureBase_GetConst := rfl
theorem tie_SharedFutureBase_TouchMove : Extracted.Kernels.SharedFutureBase_TouchMove = Skeletons.SharedFutureBase_TouchMove := rfl
theorem tie_SharedFutureBase_TouchConst : Extracted.Kernels.SharedFutureBase_TouchConst = Skeletons.SharedFutureBase_TouchConst := rfl
theorem tie_SharedFutureBase_ThenOn : Extracted.Kernels.SharedFutureBase_ThenOn = Skeletons.SharedFutureBase_ThenOn := rfl
theorem tie_SharedFutureBase_SubscribeInline : Extracted.Kernels.SharedFutureBase_SubscribeInline = Skeletons.SharedFutureBase_SubscribeInline := rfl
theorem tie_SharedFutureBase_Subscribe : Extracted.Kernels.SharedFutureBase_Subscribe = Skeletons.SharedFutureBase_Subscribe := rfl
theorem tie_SharedFuture_ThenInline : Extracted.Kernels.SharedFuture_ThenInline = Skeletons.SharedFuture_ThenInline := rfl
theorem tie_SharedFutureBase_GetHandle : Extracted.Kernels.SharedFutureBase_GetHandle = Skeletons.SharedFutureBase_GetHandle := rfl
theorem tie_SharedPromise_Set : Extracted.Kernels.SharedPromise_Set = Skeletons.SharedPromise_Set := rfl
theorem tie_SharedPromise_dtor : Extracted.Kernels.SharedPromise_dtor = Skeletons.SharedPromise_dtor := rfl
theorem tie_MakeSharedContract : Extracted.Kernels.MakeSharedContract = Skeletons.MakeSharedContract := rfl
theorem tie_MakeShared : Extracted.Kernels.MakeShared = Skeletons.MakeShared := rfl
theorem tie_SharedHandle_SetCallback : Extracted.Kernels.SharedHandle_SetCallback = Skeletons.SharedHandle_SetCallback := rfl
theorem tie_detail_SetCallback : Extracted.Kernels.detail_SetCallback = Skeletons.detail_SetCallback := rfl
theorem tie_Connect_Unique : Extracted.Kernels.Connect_Unique = Skeletons.Connect_Unique := rfl
theorem tie_WaitRange : Extracted.Kernels.WaitRange = Skeletons.WaitRange := rfl
theorem tie_WaitCore : Extracted.Kernels.WaitCore = Skeletons.WaitCore := rfl
theorem tie_CallCallback_Impl : Extracted.Kernels.CallCallback_Impl = Skeletons.CallCallback_Impl := rfl
theorem tie_MutexEvent_Set : Extracted.Kernels.MutexEvent_Set = Skeletons.MutexEvent_Set := rfl
theorem tie_MutexEvent_Wait : Extracted.Kernels.MutexEvent_Wait = Skeletons.MutexEvent_Wait := rfl
theorem tie_AtomicCounter_Add : Extracted.Kernels.AtomicCounter_Add = Skeletons.AtomicCounter_Add := rfl
theorem tie_AtomicCounter_Sub : Extracted.Kernels.AtomicCounter_Sub = Skeletons.AtomicCounter_Sub := rfl
theorem tie_AtomicCounter_Get : Extracted.Kernels.AtomicCounter_Get = Skeletons.AtomicCounter_Get := rfl
theorem tie_AtomicCounter_SubEqual : Extracted.Kernels.AtomicCounter_SubEqual = Skeletons.AtomicCounter_SubEqual := rfl
theorem tie_Helper_IncRef : Extracted.Kernels.Helper_IncRef = Skeletons.Helper_IncRef := rfl
theorem tie_Helper_DecRef : Extracted.Kernels.Helper_DecRef = Skeletons.Helper_DecRef := rfl
theorem tie_Helper_GetRef : Extracted.Kernels.Helper_GetRef = Skeletons.Helper_GetRef := rfl
theorem tie_IntrusivePtr_copy_from_raw : Extracted.Kernels.IntrusivePtr_copy_from_raw = Skeletons.IntrusivePtr_copy_from_raw := rfl
theorem tie_IntrusivePtr_dtor : Extracted.Kernels.IntrusivePtr_dtor = Skeletons.IntrusivePtr_dtor := rfl
theorem tie_When_ConsumeImpl : Extracted.Kernels.When_ConsumeImpl = Skeletons.When_ConsumeImpl := rfl
theorem tie_When_CombinatorCallback_Impl : Extracted.Kernels.When_CombinatorCallback_Impl = Skeletons.When_CombinatorCallback_Impl := rfl
theorem tie_AwaitAwaiterBase_await_ready : Extracted.Kernels.AwaitAwaiterBase_await_ready = Skeletons.AwaitAwaiterBase_await_ready := rfl
theorem tie_InlineCore_Loop : Extracted.Kernels.InlineCore_Loop = Skeletons.InlineCore_Loop := rfl
theorem tie_SharedCore_Next : Extracted.Kernels.SharedCore_Next = Skeletons.SharedCore_Next := rfl
theorem tie_Split : Extracted.Kernels.Split = Skeletons.Split := rfl
theorem tie_Share : Extracted.Kernels.Share = Skeletons.Share := rfl
theorem tie_MakeSharedContractOn : Extracted.Kernels.MakeSharedContractOn = Skeletons.MakeSharedContractOn := rfl
theorem tie_SharedFutureOn_On : Extracted.Kernels.SharedFutureOn_On = Skeletons.SharedFutureOn_On := rfl
theorem tie_UniqueCore_Here : Extracted.Kernels.UniqueCore_Here = Skeletons.UniqueCore_Here := rfl
theorem tie_Promise_Set : Extracted.Kernels.Promise_Set = Skeletons.Promise_Set := rfl
theorem tie_Promise_dtor : Extracted.Kernels.Promise_dtor = Skeletons.Promise_dtor := rfl
theorem tie_Destroy_await_suspend : Extracted.Kernels.Destroy_await_suspend = Skeletons.Destroy_await_suspend := rfl
theorem tie_PromiseType_return_value : Extracted.Kernels.PromiseType_return_value = Skeletons.PromiseType_return_value := rfl
theorem tie_PromiseTypeDeleter_Delete : Extracted.Kernels.PromiseTypeDeleter_Delete = Skeletons.PromiseTypeDeleter_Delete := rfl

end Yaclib.Props.C06.Tie
