/-
C16 — WaitGroup / OneShotEvent release every waiter exactly when the count hits zero.

Property theorems about the model `Yaclib.Event` (Model/Event.lean), for **every** workload: any number of threads each
running any program of Add / Done / Attach / Consume / Promise::Set / Ready / Wait / WaitFor / co_await (inline, sticky,
on-executor) / TryAdd operations, any number of futures, every interleaving at atomic-operation granularity, every placement
of the timeouts, every admissible stale pre-check load, spurious weak-CAS failure and spurious wake-up.  Where the property
speaks "within the documented rule that Add is only called while the count is non-zero", the theorems assume `w.ok`, the
decidable token discipline of Model/Event.lean / Proofs/EventTok.lean.  Invariants and their preservation proofs are in
Proofs/Event*.lean.
-/
import YaclibModel.Base.Run
import YaclibModel.Proofs.EventProgress
import YaclibModel.Proofs.EventExec2
import YaclibModel.Proofs.StrandTowerInline
import YaclibModel.Proofs.StrandTowerManual
import YaclibModel.Proofs.PoolExecContract
import YaclibModel.Extracted.Kernels
import YaclibModel.Model.Skeletons

namespace Yaclib.Props.C16
open Yaclib.Event

variable {w : Workload} {s s' : State} {l : Label}

/-- the label reports a release: a coroutine / job was resumed, `Wait()` returned, `WaitFor` returned true -/
def IsRelease (l : Label) : Prop := (∃ t j, l = .rel t j) ∨ (∃ t j, l = .ret t j true)

/-- a waiter is released only after a decrement has taken the count to zero … -/
theorem released_only_at_zero (h : Reachable w s) (hs : Step s l s') (hl : IsRelease l) : s.zeroed = true := by
  have hz := invZ_reachable h
  rcases hl with ⟨t, j, rfl⟩ | ⟨t, j, rfl⟩
  · cases hs with
    | tRunRel _ _ rest hp _ => exact hz.z_pc t (by simp [hp, Pc.setter])
    | tResume _ _ hp => exact hz.z_rel t (by simp [hp, Pc.releasing])
  · cases hs with
    | tRep _ _ _ hp => exact hz.z_rel t (by simp [hp, Pc.releasing])

/-- … and under the documented rule the count is zero from then on: every Add has been matched by Done, no thread holds a unit
    and no attached / consumed future still carries one (all of them have completed and decremented) -/
theorem zero_is_final (hok : w.ok) (h : Reachable w s) (hz : s.zeroed = true) :
    s.count = 0 ∧ s.toks = [] ∧ ∀ t, (s.thr t).held = 0 := by
  have ht := invT_reachable hok h
  have hc := ht.t_z hz
  have hcnt := ht.t_cnt
  rw [hc] at hcnt
  have h1 : s.toks.length = 0 := by omega
  have h2 : hsum s.thr s.w.nthr = 0 := by omega
  refine ⟨hc, List.eq_nil_of_length_eq_zero h1, fun t => ?_⟩
  by_cases hlt : t < s.w.nthr
  · have := hsum_pos (f := s.thr) hlt; omega
  · exact (ht.t_out t (by omega)).2.2

/-- the rule itself is respected by every run of an `ok` workload: each `fetch_add` (Add, and the implicit Add of
    Attach / Consume) finds a non-zero count -/
theorem add_only_nonzero (hok : w.ok) (h : Reachable w s) {t k : Nat} {old : Int} (hs : Step s (.fadd t k old) s') : 1 ≤ old := by
  have ht := invT_reachable hok h
  have hcnt := ht.t_cnt
  have key : ∀ t, (s.thr t).pc ≠ .idle ∨ (s.thr t).prog ≠ [] → 1 ≤ (s.thr t).held → 1 ≤ s.count := by
    intro t ha hh
    have := hsum_pos (f := s.thr) (ht.active_lt ha)
    omega
  cases hs with
  | tAdd _ _ rest hp hpr =>
      have hok := ht.t_ok t
      simp only [thrOk, hp, hpr, okProg, Bool.and_eq_true, decide_eq_true_eq] at hok
      exact key t (Or.inr (by simp [hpr])) hok.1
  | tInsAdd _ c fs rest hp hpr hne =>
      have hok := ht.t_ok t
      simp only [thrOk, hp, hpr, okProg, Bool.and_eq_true, decide_eq_true_eq] at hok
      exact key t (Or.inr (by simp [hpr])) hok.1.1

/-- the count reaches zero at most once, `SetImpl` never runs on the all-done sentinel, the count never underflows -/
theorem set_once (hok : w.ok) (h : Reachable w s) : s.nzero ≤ 1 ∧ s.crash = false ∧ 0 ≤ s.count := by
  have ht := invT_reachable hok h
  refine ⟨ht.t_nz, ht.t_crash, ?_⟩
  rw [ht.t_cnt]; omega

/-- every waiter is released at most once -/
theorem released_once (hok : w.ok) (h : Reachable w s) (j : Nat) : (s.job j).nrel ≤ 1 := (invJ_reachable hok h).r_nrel j

/-- a waiter arriving late: `TryAdd` returns false (the ghost state `failed`) only when the all-done sentinel is in the head,
    i.e. only after zero; a push succeeds only while it is not -/
theorem late_waiter_released (h : Reachable w s) (j : Nat) :
    ((s.job j).st = .failed → s.zeroed = true) ∧ (∀ t s', Step s (.hCas t true) s' → s.head ≠ none) := by
  refine ⟨(invZ_reachable h).z_failed j, ?_⟩
  intro t s' hs
  cases hs with
  | tCasOk _ _ l _ hh => simp [hh]

/-- the heap waiter of a timed wait is freed at most once, by the owner's or the event's `DecRef` — whichever comes last (its
    reference count is exactly the number of owners that have not let go) — and nobody ever touches a waiter object that is gone -/
theorem timed_waiter_freed_once (hok : w.ok) (h : Reachable w s) (j : Nat) (hk : (s.job j).kind = .timed) :
    (s.job j).nfree ≤ 1 ∧ ((s.job j).freed = true ↔ (s.job j).nfree = 1) ∧ s.bad = false ∧
    ((s.job j).st ≠ .failed →
      (s.job j).refs = (if (s.job j).oref then 1 else 0) + (if (s.job j).st.inList then 1 else 0) ∧
      ((s.job j).freed = true ↔ (s.job j).refs = 0)) := by
  have hi := invJ_reachable hok h
  refine ⟨?_, ?_, hi.bad, fun hst => ⟨(hi.f_timed j hk hst).1, (hi.f_timed j hk hst).2.1⟩⟩
  · by_cases hst : (s.job j).st = .failed
    · rw [(hi.f_failed j hk hst).2.1]; omega
    · rw [(hi.f_timed j hk hst).2.2]; split <;> omega
  · by_cases hst : (s.job j).st = .failed
    · have := hi.f_failed j hk hst; simp [this.1, this.2.1]
    · have := (hi.f_timed j hk hst).2.2
      rw [this]; cases (s.job j).freed <;> simp

/-- consumed futures are released exactly as often as they were consumed, never more: the core of a future whose `Consume`
    was decided once is released once it has completed (or at once if it was ready), and never twice; attached futures are
    never released by the WaitGroup -/
theorem consumed_released_once (h : Reachable w s) (f : Nat) :
    (s.fut f).nfree + (if (s.fut f).word = .drop then 1 else 0) = (s.fut f).ncon := (invA_reachable h).a_con f

/-- attached futures stay valid for their owner: `Ready()` reports true only once the future has completed, and then always -/
theorem attached_not_ready_before_completion (h : Reachable w s) :
    (∀ x, x ∈ s.readyObs → x.2.1 = true → x.2.2 = true) ∧ (∀ f, (s.fut f).word = .result ↔ (s.fut f).completed = true) :=
  ⟨(invA_reachable h).a_obs, (invA_reachable h).a_res⟩

/- Defect D3 (fixed in /repo by commit c9c07bc): before the fix `Future::Ready()` was `word ≠ kEmpty`, which is true as soon as
   `Attach` has registered the WaitGroup's callback.  With `Ready()` modelled as `word ≠ empty` the theorem above was false and
   this file proved its negation on a witness instead:
     theorem attached_not_ready_before_completion_violated_witness :
         ∃ s, Reachable ⟨1, fun _ => [.insert false [0], .ready 0], fun _ => 1, 1⟩ s ∧ (0, true, false) ∈ s.readyObs
   (run: fadd 0 1 1, fLoad 0 0 empty, fCas 0 0 true, fLoad 0 0 call, rdy 0 0 true); the implementation scenario was
   `event nthr=2 held=1,0 nfut=1 prog=att:0;rdy:0;done:1;wait;rdy:0/ful:0 kind=wg`, choices `k0/2`. -/

/-- OneShotEvent gives the same guarantees: an event whose `Set()` is called once by one thread is the workload in which that
    thread holds the only unit and returns it; such workloads respect the rule, so every theorem of this file applies -/
def Workload.oneshot (w : Workload) (ts : Nat) : Prop :=
  ts < w.nthr ∧ w.prog ts = [.done 1] ∧ w.held0 ts = 1 ∧
  ∀ t, t < w.nthr → t ≠ ts → w.held0 t = 0 ∧ ∀ op, op ∈ w.prog t → opKind op ≠ none

theorem okProg_waits (p : List Op) (hp : ∀ op, op ∈ p → opKind op ≠ none) : okProg 0 p = true := by
  induction p with
  | nil => rfl
  | cons op r ih =>
      have h1 := hp op (by simp)
      have h2 := ih (fun o ho => hp o (by simp [ho]))
      cases op <;> simp [opKind] at h1 <;> simpa [okProg] using h2

theorem oneshot_event_same {ts : Nat} (h : Workload.oneshot w ts) : w.ok := by
  intro t ht
  by_cases he : t = ts
  · subst he; rw [h.2.1, h.2.2.1]; rfl
  · have := h.2.2.2 t ht he
    rw [this.1]; exact okProg_waits _ this.2

/-- nobody stays parked: once the count has reached zero, a state in which nothing but spurious weak-CAS failures and spurious
    wake-ups is possible is a state in which every thread has finished its program and every waiter — registered before or
    arriving after — has been released exactly once (a timed wait may instead have returned false earlier; its heap waiter is
    freed all the same) -/
theorem quiescent_complete (hok : w.ok) (h : Reachable w s) (hq : ∀ l s', Step s l s' → Spur s l) (hz : s.zeroed = true) :
    (∀ t, (s.thr t).pc = .idle ∧ (s.thr t).prog = []) ∧ ∀ j, j < s.njobs → JobDone (s.job j) :=
  quiescent_done (invZ_reachable h) (invT_reachable hok h) (invJ_reachable hok h) (invQ_reachable hok h) hq hz


/-! ### on-executor waiters over a real executor (Proofs/EventExec*.lean)

The waiters `j` with `X j` (`co_await wg.AwaitOn(e)` / sticky on `e`) are released through an executor `E` given as an open
transition system (`Yaclib.Strand.Exec`): the model's `rel t j` = `E`'s `sub j`; `call j` … `ret j` = the coroutine is resumed;
`drop j` = it is completed with StopError.  `nrel j` counts the hand-over (Submit), so a waiter that is Dropped later counts as
released once; that the executor then Calls or Drops it exactly once is `ExecContract E`. -/
section OverExec
open Yaclib.Strand (Exec ExecContract inlineExec manualExec tower inline_contract manual_contract tower_satisfies_contract)
open Yaclib.Pool (poolExec pool_contract)
variable {E : Exec} {X : Nat → Bool} {x x' : XState E} {xl : XLab}

/-- projection, for EVERY executor `E`: the event component of a reachable composed state is reachable in the plain model (all
    theorems above apply to it) and the executor component is reached with a protocol-honouring client -/
theorem xevent_projects (h : XReach w E X x) : Reachable w x.m ∧ E.Run x.x x.p := Yaclib.Event.xevent_projects h

theorem released_only_at_zero_over (hok : w.ok) (hc : ExecContract E) (h : XReach w E X x) (hs : XStep E X x xl x') :
    (∀ t j, xl = .sub t j → x.m.zeroed = true) ∧
    (∀ j, xl = .call j ∨ xl = .drop j → x.m.zeroed = true ∧ (x.m.job j).nrel = 1) :=
  released_only_at_zero_over' hok hc h hs

theorem released_once_over (hok : w.ok) (hc : ExecContract E) (h : XReach w E X x) (hs : XStep E X x xl x') (j : Nat) :
    (x.m.job j).nrel ≤ 1 ∧ (∀ t, xl = .sub t j → x.p j = .fresh ∧ (x.m.job j).nrel = 0 ∧ (x'.m.job j).nrel = 1) ∧
    (xl = .call j ∨ xl = .drop j → x.p j = .pending) :=
  released_once_over' hok hc h hs j

/-- every thread has finished, every waiter is done, and the executor holds nothing: whatever was submitted is finished -/
def OverDone {E : Exec} (x : XState E) : Prop :=
  ((∀ t, (x.m.thr t).pc = .idle ∧ (x.m.thr t).prog = []) ∧ ∀ j, j < x.m.njobs → JobDone (x.m.job j)) ∧
  ∀ j, x.p j ≠ .fresh → x.p j = .finished

/-- quiet composition ⇒ nothing pending in `E`: every on-executor waiter the event released has been resumed or dropped -/
theorem quiescent_complete_over (hok : w.ok) (hc : ExecContract E) (h : XReach w E X x) (hq : XQuiet E X x)
    (hz : x.m.zeroed = true) : OverDone x :=
  quiescent_complete_over' hok hc h hq hz

/-! instances: the library's executors -/

theorem quiescent_over_inline (alive : Bool) (hok : w.ok) {x : XState (inlineExec alive)} (h : XReach w _ X x)
    (hq : XQuiet _ X x) (hz : x.m.zeroed = true) : OverDone x := quiescent_complete_over hok (inline_contract alive) h hq hz

theorem quiescent_over_manual (hok : w.ok) {x : XState (manualExec false)} (h : XReach w _ X x) (hq : XQuiet _ X x)
    (hz : x.m.zeroed = true) : OverDone x := quiescent_complete_over hok manual_contract h hq hz

theorem quiescent_over_pool {n : Nat} (hn : 0 < n) (stop : Option Yaclib.Pool.StopKind) (spur : Bool) (hok : w.ok)
    {x : XState (poolExec n stop spur)} (h : XReach w _ X x) (hq : XQuiet _ X x) (hz : x.m.zeroed = true) :
    OverDone x := quiescent_complete_over hok (pool_contract hn stop spur) h hq hz

theorem quiescent_over_tower {base : Exec} (hb : ExecContract base) (n : Nat) (hok : w.ok) {x : XState (tower base n)}
    (h : XReach w _ X x) (hq : XQuiet _ X x) (hz : x.m.zeroed = true) : OverDone x :=
  quiescent_complete_over hok (tower_satisfies_contract hb n) h hq hz

/-- non-vacuity: `co_await wg.AwaitOn(e)` with `e` = the STOPPED inline executor: the waiter is pushed, the count reaches zero,
    SetImpl releases it = Submit (sub 0), the executor Drops it (drop 0): released once (`nrel = 1`), finished in `E` -/
example : ∃ x : XState (inlineExec false),
    XReach ⟨2, fun t => if t = 0 then [.done 1] else [.await .on], fun t => if t = 0 then 1 else 0, 0⟩ (inlineExec false) (fun _ => true) x ∧
    (x.m.job 0).nrel = 1 ∧ x.p 0 = .finished := by
  let w : Workload := ⟨2, fun t => if t = 0 then [.done 1] else [.await .on], fun t => if t = 0 then 1 else 0, 0⟩
  have h0 : XReach w (inlineExec false) (fun _ => true) (xinit w _) := .init
  have h1 := XReach.step h0 (XStep.plain (l := .hLoad 1 (.cur [])) (next_sound (s' := _) rfl) rfl)
  have h2 := XReach.step h1 (XStep.plain (l := .hCas 1 true) (next_sound (s' := _) rfl) rfl)
  have h3 := XReach.step h2 (XStep.plain (l := .fsub 0 1 1) (next_sound (s' := _) rfl) rfl)
  have h4 := XReach.step h3 (XStep.plain (l := .hXchg 0 (some [0])) (next_sound (s' := _) rfl) rfl)
  have h5 := XReach.step h4 (XStep.sub (t := 0) (j := 0) (lx := Yaclib.Strand.XEv.sub 0)
    (x' := Yaclib.Strand.upd Yaclib.Strand.protInit 0 .pending) (next_sound (s' := _) rfl) rfl (by exact ⟨rfl, rfl⟩) rfl rfl)
  have h6 := XReach.step h5 (XStep.drop (j := 0) (lx := Yaclib.Strand.XEv.drop 0)
    (x' := Yaclib.Strand.upd (Yaclib.Strand.upd Yaclib.Strand.protInit 0 .pending) 0 .finished) (by exact ⟨rfl, rfl, rfl⟩) rfl)
  exact ⟨_, h6, rfl, rfl⟩

end OverExec

/-- everything the trace validator accepts is a behaviour the theorems speak about -/
theorem validator_sound (h : Reachable w s) (hn : next s l = some s') : Reachable w s' := .step h (next_sound hn)

/-! ### non-vacuity -/

/-- the rule is satisfiable (and decidable): `wg{1}`; thread 0 attaches future 0, asks Ready(), gives its unit back and waits;
    thread 1 fulfils the future; thread 2 awaits -/
def wl : Workload :=
  { nthr := 3, nfut := 1, held0 := fun t => if t = 0 then 1 else 0,
    prog := fun t => if t = 0 then [.insert false [0], .ready 0, .done 1, .wait, .ready 0]
                     else if t = 1 then [.fulfil 0] else [.await .inline] }

example : wl.ok := by decide

/-- the scenario that exhibited D3: after `Attach` the future is not Ready (the word holds the WaitGroup's callback); the
    count reaches zero by the producer's decrement, which releases the coroutine and the blocking waiter; afterwards the
    future is Ready -/
example : ∃ s, Reachable wl s ∧ s.readyObs = [(0, false, false), (0, true, true)] ∧ (s.job 0).nrel = 1 ∧ (s.job 1).nrel = 1 ∧
    s.count = 0 ∧ ∀ t, t < 3 → (s.thr t).prog = [] := by
  have h : Reachable wl _ := runL_preserves (next := next) validator_sound .init
    [.fadd 0 1 1, .fLoad 0 0 .empty, .fCas 0 0 true, .fLoad 0 0 .call,
     .rdy 0 0 false,  -- not Ready although a callback is registered
     .hLoad 2 (.cur []),  -- co_await: Ready() of the event
     .hLoad 2 (.cur []),  -- TryAdd
     .hCas 2 true,  -- job 0 (coroutine) pushed: suspended
     .fsub 0 1 2,  -- Done(): 2 → 1
     .hLoad 0 (.cur [0]),  -- Wait(): TryAdd
     .hCas 0 true,  -- job 1 (blocking) pushed
     .lock 0 1,
     .unlock 0 1,  -- asleep
     .pXchg 1 0 .call,  -- the future completes
     .fsub 1 1 1,  -- its callback: 1 → 0: Set
     .hXchg 1 (some [1, 0]), .lock 1 1, .unlock 1 1,
     .rel 1 0,  -- the coroutine is resumed by the setter
     .lock 0 1, .unlock 0 1,
     .ret 0 1 true,  -- Wait() returns
     .fLoad 0 0 .result, .rdy 0 0 true] rfl
  refine ⟨_, h, rfl, rfl, rfl, rfl, ?_⟩
  intro t ht
  have : t = 0 ∨ t = 1 ∨ t = 2 := by omega
  rcases this with rfl | rfl | rfl <;> rfl

/-- a timed wait that times out while the setter is already inside its `Set()`: WaitFor returns true after all (the flag was
    set under the mutex), the setter lets go last and frees the heap waiter; a late blocking waiter is released without ever
    entering the list -/
example : ∃ s, Reachable ⟨2, fun t => if t = 0 then [.done 1] else [.waitFor, .wait], fun t => if t = 0 then 1 else 0, 0⟩ s ∧
    (s.job 0).nrel = 1 ∧ (s.job 0).freed = true ∧ (s.job 0).nfree = 1 ∧ (s.job 1).st = .failed ∧ (s.job 1).nrel = 1 ∧
    s.bad = false := by
  let w : Workload := ⟨2, fun t => if t = 0 then [.done 1] else [.waitFor, .wait], fun t => if t = 0 then 1 else 0, 0⟩
  have h : Reachable w _ := runL_preserves (next := next) validator_sound .init
    [.hLoad 1 (.cur []), .hCas 1 true, .lock 1 0, .unlock 1 0, .fsub 0 1 1, .hXchg 0 (some [0]),
     .timeout 1 0,  -- the deadline passes …
     .lock 0 0,  -- … but the setter gets the mutex first
     .unlock 0 0, .lock 1 0, .unlock 1 0,
     .jDec 1 0 2,  -- the waiter lets go first
     .ret 1 0 true,
     .jDec 0 0 1,  -- the event lets go last: delete
     .hLoad 1 .done,  -- the late Wait(): TryAdd fails
     .ret 1 1 true] rfl
  exact ⟨_, h, rfl, rfl, rfl, rfl, rfl, rfl⟩

end Yaclib.Props.C16

/-! ### tie to the source (T2): the kernels this model was written from are unchanged.
`Extracted/Kernels.lean` is regenerated from /repo on every check run. -/
namespace Yaclib.Props.C16.Tie
open Yaclib

theorem tie_OneShotEvent_SetImpl : Extracted.Kernels.OneShotEvent_SetImpl = Skeletons.OneShotEvent_SetImpl := rfl
theorem tie_OneShotEvent_TryAdd : Extracted.Kernels.OneShotEvent_TryAdd = Skeletons.OneShotEvent_TryAdd := rfl
theorem tie_OneShotEvent_Ready : Extracted.Kernels.OneShotEvent_Ready = Skeletons.OneShotEvent_Ready := rfl
theorem tie_OneShotEvent_Wait : Extracted.Kernels.OneShotEvent_Wait = Skeletons.OneShotEvent_Wait := rfl
theorem tie_OneShotEvent_Set : Extracted.Kernels.OneShotEvent_Set = Skeletons.OneShotEvent_Set := rfl
theorem tie_OneShotEvent_TimedWait : Extracted.Kernels.OneShotEvent_TimedWait = Skeletons.OneShotEvent_TimedWait := rfl
theorem tie_ExtendedAwaiter_Call : Extracted.Kernels.OneShotEvent_ExtendedAwaiter_Call = Skeletons.OneShotEvent_ExtendedAwaiter_Call := rfl
theorem tie_Waiter_Call : Extracted.Kernels.OneShotEvent_Waiter_Call = Skeletons.OneShotEvent_Waiter_Call := rfl
theorem tie_TimedWaiter_Call : Extracted.Kernels.OneShotEvent_TimedWaiter_Call = Skeletons.OneShotEvent_TimedWaiter_Call := rfl
theorem tie_await_ready : Extracted.Kernels.OneShotEvent_await_ready = Skeletons.OneShotEvent_await_ready := rfl
theorem tie_OnAwaiter_await_ready : Extracted.Kernels.OneShotEvent_OnAwaiter_await_ready = Skeletons.OneShotEvent_OnAwaiter_await_ready := rfl
theorem tie_await_suspend : Extracted.Kernels.OneShotEvent_await_suspend = Skeletons.OneShotEvent_await_suspend := rfl
theorem tie_WaitGroup_Add : Extracted.Kernels.WaitGroup_Add = Skeletons.WaitGroup_Add := rfl
theorem tie_WaitGroup_Done : Extracted.Kernels.WaitGroup_Done = Skeletons.WaitGroup_Done := rfl
theorem tie_WaitGroup_Wait : Extracted.Kernels.WaitGroup_Wait = Skeletons.WaitGroup_Wait := rfl
theorem tie_WaitGroup_WaitFor : Extracted.Kernels.WaitGroup_WaitFor = Skeletons.WaitGroup_WaitFor := rfl
theorem tie_WaitGroup_InsertRange : Extracted.Kernels.WaitGroup_InsertRange = Skeletons.WaitGroup_InsertRange := rfl
theorem tie_WaitGroup_InsertCore : Extracted.Kernels.WaitGroup_InsertCore = Skeletons.WaitGroup_InsertCore := rfl
theorem tie_WaitGroup_InsertIt : Extracted.Kernels.WaitGroup_InsertIt = Skeletons.WaitGroup_InsertIt := rfl
theorem tie_CallCallback_Impl : Extracted.Kernels.CallCallback_Impl = Skeletons.CallCallback_Impl := rfl
theorem tie_DropCallback_Impl : Extracted.Kernels.DropCallback_Impl = Skeletons.DropCallback_Impl := rfl
theorem tie_AtomicCounter_Add : Extracted.Kernels.AtomicCounter_Add = Skeletons.AtomicCounter_Add := rfl
theorem tie_AtomicCounter_Sub : Extracted.Kernels.AtomicCounter_Sub = Skeletons.AtomicCounter_Sub := rfl
theorem tie_AtomicCounter_SubEqual : Extracted.Kernels.AtomicCounter_SubEqual = Skeletons.AtomicCounter_SubEqual := rfl
theorem tie_SetDeleter_Delete : Extracted.Kernels.SetDeleter_Delete = Skeletons.SetDeleter_Delete := rfl
theorem tie_SetCallbackImpl : Extracted.Kernels.BaseCore_SetCallbackImpl = Skeletons.BaseCore_SetCallbackImpl := rfl
theorem tie_SetResultImpl : Extracted.Kernels.BaseCore_SetResultImpl = Skeletons.BaseCore_SetResultImpl := rfl
theorem tie_BaseCore_Ready : Extracted.Kernels.BaseCore_Ready = Skeletons.BaseCore_Ready := rfl
theorem tie_FutureBase_Ready : Extracted.Kernels.FutureBase_Ready = Skeletons.FutureBase_Ready := rfl
theorem tie_MutexEvent_Set : Extracted.Kernels.MutexEvent_Set = Skeletons.MutexEvent_Set := rfl
theorem tie_MutexEvent_Wait : Extracted.Kernels.MutexEvent_Wait = Skeletons.MutexEvent_Wait := rfl
theorem tie_MutexEvent_WaitTimed : Extracted.Kernels.MutexEvent_WaitTimed = Skeletons.MutexEvent_WaitTimed := rfl

end Yaclib.Props.C16.Tie
