/-
C10 — WhenAny completes once with the right winner for each fail policy.

Property theorems about the combinator model `Yaclib.When` (Model/When.lean), strategies `Any<None>` (flag),
`Any<FirstFail>` (empty / error / value word + saved first failure published by the destructor) and `Any<LastFail>`
(packed counter `2 * count`, low bit = done), for **every** number of inputs, every success / failure pattern and every
interleaving (registration racing with completions, stale pre-check loads included).
"First" always refers to the linearisation order of the read-modify-write operations on the strategy's word
(`s.rmwOrder`).  Helper lemmas and the inductive invariants are in Proofs/When*.lean.
-/
import YaclibModel.Base.Run
import YaclibModel.Proofs.WhenSpec
import YaclibModel.Proofs.WhenComposeProgress
import YaclibModel.Proofs.WhenComposeSharedSim
import YaclibModel.Proofs.WhenComposeMixed
import YaclibModel.Extracted.Kernels
import YaclibModel.Model.Skeletons

namespace Yaclib.Props.C10
open Yaclib.When

variable {w : Workload} {s : State}

/-- the strategies of WhenAny -/
def IsAny (w : Workload) : Prop := w.strat = .anyNone ∨ w.strat = .anyFF ∨ w.strat = .anyLF

/-- is input `i` a value? -/
abbrev isVal (w : Workload) : Nat → Bool := fun i => ok (w.inp i)

/-- the output is set at most once, and with the outcome of one of the inputs (never a broken promise, never a
    default-constructed error) -/
theorem any_set_once (hwf : w.wf) (ha : IsAny w) (h : Reachable w s) :
    s.outSet.length ≤ 1 ∧ ∀ o, o ∈ s.outSet → ∃ k, k < w.n ∧ o = .one (w.inp k) := by
  have hI := inv_reachable hwf h
  have hV := invv_reachable hwf h
  refine ⟨hI.o.len, ?_⟩
  intro o ho
  cases hwin : s.win with
  | some k => exact ⟨k, win_lt hI.c hI.r hwin, hV.out_win o ho k hwin⟩
  | none =>
      obtain ⟨hx, h1, h2, h3⟩ := hV.out_dtor o ho hwin
      rcases ha with ha | ha | ha
      · exact absurd ha h1
      · cases he : s.errBy with
        | none => exact absurd he (h3 ha)
        | some e => exact ⟨e, err_lt hI.c hI.r he, by rw [hx]; simp [dtorExpected, ha, he]⟩
      · exact absurd ha h2

/-- … exactly once by the time nothing can move any more -/
theorem any_set_exactly_once_at_quiescence (hwf : w.wf) (h : Reachable w s) (hn : w.n ≠ 0) (hc : s.crashed = false)
    (hq : ∀ l s', ¬ Step w s l s') : s.outSet.length = 1 ∧ ∀ i, i < w.n → s.pc i = .done := by
  have hI := inv_reachable hwf h
  have hd := done_of_quiescent hI.c hc hq
  exact ⟨(complete_of_all_done hI.c hI.o hn hd).1, hd⟩

/-- LastFail (default): the winner is the first value to exchange the counter; if there is none, every input failed
    and the winner is the input whose `fetch_sub` was the last one -/
theorem any_lastfail_spec (hwf : w.wf) (hs : w.strat = .anyLF) (h : Reachable w s) :
    ∀ o, o ∈ s.outSet → ∃ k, s.win = some k ∧ k < w.n ∧ o = .one (w.inp k) ∧
      (match s.rmwOrder.find? (isVal w) with
       | some v => k = v
       | none => s.rmwOrder.getLast? = some k ∧ ∀ j, j < w.n → ok (w.inp j) = false) := by
  have hI := inv_reachable hwf h
  have hV := invv_reachable hwf h
  intro o ho
  cases hwin : s.win with
  | none => exact absurd hs (hV.out_dtor o ho hwin).2.2.1
  | some k =>
      have hk := win_lt hI.c hI.r hwin
      have hL := hI.l hs (by omega)
      refine ⟨k, rfl, hk, hV.out_win o ho k hwin, ?_⟩
      by_cases he : s.lf % 2 = 0
      · have h1 := hL.lf_even he
        have h2 := hL.lf_win0 he
        have hfind : s.rmwOrder.find? (isVal w) = none := h1.2
        rw [hfind]
        refine ⟨h2.2 k hwin, ?_⟩
        have hz : s.lf = 0 := h2.1.mp (by rw [hwin]; simp)
        have hle := cnt_le s.rmwDone w.n
        have hfull : cnt s.rmwDone w.n = w.n := by have := h1.1; omega
        intro j hj
        have hdone := cnt_full hfull j hj
        have hmem := (hI.r.order_mem j).mpr hdone
        have := List.find?_eq_none.mp hfind j hmem
        simpa [isVal] using this
      · have h1 := hL.lf_odd (by omega)
        have : s.rmwOrder.find? (isVal w) = some k := by rw [← hwin]; exact h1.2.symm
        rw [this]

/-- FirstFail: the first value to exchange the word wins; if there is none, every input failed and the output is the
    failure of the input that performed the first read-modify-write on the word (the successful CAS), published by
    the destructor after the last input -/
theorem any_firstfail_spec (hwf : w.wf) (hs : w.strat = .anyFF) (h : Reachable w s) :
    ∀ o, o ∈ s.outSet →
      (match s.rmwOrder.find? (isVal w) with
       | some v => s.win = some v ∧ o = .one (w.inp v)
       | none => (∀ j, j < w.n → ok (w.inp j) = false) ∧
           ∃ e, s.rmwOrder.head? = some e ∧ e < w.n ∧ o = .one (w.inp e) ∧ ∀ j, j < w.n → holding (s.pc j) = false) := by
  have hI := inv_reachable hwf h
  have hV := invv_reachable hwf h
  have hG := hI.g hs
  intro o ho
  have hne : s.outSet ≠ [] := fun h => by rw [h] at ho; cases ho
  have hw : s.win = s.rmwOrder.find? (isVal w) := hG.s3_win
  cases hwin : s.win with
  | some v => rw [← hw, hwin]; exact ⟨rfl, hV.out_win o ho v hwin⟩
  | none =>
      rw [← hw, hwin]
      obtain ⟨hx, _, _, h3⟩ := hV.out_dtor o ho hwin
      have hfin := all_finished_of_out_dtor hI.c hI.o hne hwin
      refine ⟨?_, ?_⟩
      · intro j hj
        cases hok : ok (w.inp j) with
        | false => rfl
        | true =>
            have := hG.s3_past_val j (past_of_not_holding (hfin j hj)) hok
            exact absurd hwin (hG.s3_val.mp this)
      · cases he : s.errBy with
        | none => exact absurd he (h3 hs)
        | some e =>
            exact ⟨e, (hG.s3_err e he).1, err_lt hI.c hI.r he, by rw [hx]; simp [dtorExpected, hs, he], hfin⟩

/-- None: whatever is consumed first — the first consumption to exchange the flag — wins -/
theorem any_none_spec (hwf : w.wf) (hs : w.strat = .anyNone) (h : Reachable w s) :
    ∀ o, o ∈ s.outSet → ∃ k, s.rmwOrder.head? = some k ∧ k < w.n ∧ o = .one (w.inp k) := by
  have hI := inv_reachable hwf h
  have hV := invv_reachable hwf h
  have hF := hI.f (by rw [hs]; rfl)
  intro o ho
  cases hwin : s.win with
  | none => exact absurd hs (hV.out_dtor o ho hwin).2.1
  | some k => exact ⟨k, by rw [← hF.flag_head, hwin], win_lt hI.c hI.r hwin, hV.out_win o ho k hwin⟩

/-- later completions change nothing: once the output is `[o]` it stays `[o]` (for every strategy) -/
theorem later_completions_no_effect (hwf : w.wf) (h : Reachable w s) {l : Label} {s' : State} (hs : Step w s l s')
    {o : OutVal} (ho : s.outSet = [o]) : s'.outSet = [o] := by
  have hlen := (inv_reachable hwf (.step h hs)).o.len
  rcases outSet_mono hs with h1 | ⟨x, h1⟩
  · rw [h1, ho]
  · rw [h1, ho] at hlen; simp at hlen

/-- every input is consumed and released at most once, whoever won and whenever it completes … -/
theorem inputs_released_once (hwf : w.wf) (h : Reachable w s) : ∀ i, s.consumed i ≤ 1 ∧ s.released i ≤ 1 :=
  consumed_released_le_one (inv_reachable hwf h).c

/-- … and exactly once by the time nothing can move any more -/
theorem inputs_released_exactly_once_at_quiescence (hwf : w.wf) (h : Reachable w s) (hn : w.n ≠ 0) (hc : s.crashed = false)
    (hq : ∀ l s', ¬ Step w s l s') : ∀ i, i < w.n → s.consumed i = 1 ∧ s.released i = 1 := by
  have hI := inv_reachable hwf h
  exact (complete_of_all_done hI.c hI.o hn (done_of_quiescent hI.c hc hq)).2

/-- the packed counter of LastFail: always a size_t; while no value has exchanged it is exactly twice the number of
    inputs that have not subtracted yet (so ≤ 2n); a `fetch_sub(2)` on an even counter never underflows; once odd it
    stays odd — including the wrap-around 1 - 2 = 2^64 - 1 —, i.e. "done" is never lost -/
theorem lastfail_counter_bounds (hwf : w.wf) (hs : w.strat = .anyLF) (hn : w.n ≠ 0) (h : Reachable w s) :
    s.lf < two64 ∧
    (s.lf % 2 = 0 → s.lf = 2 * (w.n - cnt s.rmwDone w.n) ∧ s.lf ≤ 2 * w.n) ∧
    (∀ i, s.pc i = .rmw → s.lf % 2 = 0 → 2 ≤ s.lf ∧ subWrap s.lf = s.lf - 2) ∧
    (s.lf % 2 = 1 → subWrap s.lf % 2 = 1 ∧ s.win ≠ none) := by
  have hI := inv_reachable hwf h
  have hL := hI.l hs hn
  refine ⟨hL.lf_lt, ?_, ?_, ?_⟩
  · intro he
    have := (hL.lf_even he).1
    exact ⟨this, by omega⟩
  · intro i hp he
    have hi' : i < w.n := hI.c.idx (by rw [hp]; simp)
    have hnd : s.rmwDone i = false := by
      cases hd : s.rmwDone i with
      | false => rfl
      | true => have := hI.r.done_past i hd; rw [hp] at this; cases this
    have hclt := cnt_lt_of_false (p := s.rmwDone) hi' hnd
    have h1 := (hL.lf_even he).1
    have h2 : 2 ≤ s.lf := by omega
    exact ⟨h2, subWrap_even hL.lf_lt h2⟩
  · intro ho
    exact ⟨(subWrap_odd hL.lf_lt ho).1, (hL.lf_odd ho).1⟩

/-- the model's `fetch_sub(2)` is the machine's (64-bit two's complement) -/
theorem lastfail_fsub_is_bitvec (x : Nat) (hx : x < two64) : (BitVec.ofNat 64 x - 2#64).toNat = subWrap x :=
  subWrap_eq_bitvec x hx

/-- the wrap-around case spelled out: `exchange(1)` by a value, then a late failing `fetch_sub(2)`: 1 - 2 = 2^64 - 1, odd -/
theorem lastfail_wraparound_still_done : subWrap 1 = two64 - 1 ∧ subWrap 1 % 2 = 1 := by decide

/-- WhenAny never breaks its promise and no strategy step of WhenAny crashes -/
theorem any_no_crash (hwf : w.wf) (ha : IsAny w) (h : Reachable w s) :
    s.crashed = false ∧ (∀ i, s.pc i ≠ .boom ∧ s.pc i ≠ .dboom) ∧ ∀ o, o ∈ s.outSet → o ≠ .broken := by
  have hB := invb_reachable hwf h
  refine ⟨hB.not_crashed, fun i => ⟨hB.no_boom i, hB.no_dboom i⟩, ?_⟩
  · intro o ho hb
    obtain ⟨k, _, hk⟩ := (any_set_once hwf ha h).2 o ho
    rw [hb] at hk; cases hk

theorem validator_sound {l : Label} {s' : State} (h : Reachable w s) (hn : next w s l = some s') : Reachable w s' :=
  .step h (next_sound hn)

/-- the same, for runs whose states the elaborator cannot evaluate (64-bit arithmetic): checked by the kernel -/
theorem validator_run (h : Reachable w s) (l : Label) (hn : (next w s l).isSome = true) :
    Reachable w ((next w s l).get hn) := by
  have hx : next w s l = some ((next w s l).get hn) := by simp
  exact .step h (next_sound hx)

/-! ### inputs as real unique cores (Model/WhenCompose.lean, see Props/C09.lean `input_interface_sound`): the WhenAny theorems
hold in the composition of the When model with n instances of the C01 hand-off model, i.e. with every interleaving inside
`SetCallback` / `Promise::Set` of every input -/

section Composed
variable {S : WhenU.State}

/-- the When component of a reachable composed state is a reachable When state, its callback entries are the input
    instances' continuation deliveries -/
theorem any_input_interface_sound (hwf : w.wf) (h : WhenU.Reachable w S) :
    Reachable w S.wh ∧ ∀ i, S.wh.consumed i = (S.u i).delivered.length :=
  ⟨(WhenU.sim hwf h).1, (WhenU.sim hwf h).2.entries⟩

theorem any_set_once_composed (hwf : w.wf) (ha : IsAny w) (h : WhenU.Reachable w S) :
    S.wh.outSet.length ≤ 1 ∧ ∀ o, o ∈ S.wh.outSet → ∃ k, k < w.n ∧ o = .one (w.inp k) :=
  any_set_once hwf ha (WhenU.sim hwf h).1

theorem any_lastfail_spec_composed (hwf : w.wf) (hs : w.strat = .anyLF) (h : WhenU.Reachable w S) :
    ∀ o, o ∈ S.wh.outSet → ∃ k, S.wh.win = some k ∧ k < w.n ∧ o = .one (w.inp k) ∧
      (match S.wh.rmwOrder.find? (isVal w) with
       | some v => k = v
       | none => S.wh.rmwOrder.getLast? = some k ∧ ∀ j, j < w.n → ok (w.inp j) = false) :=
  any_lastfail_spec hwf hs (WhenU.sim hwf h).1

theorem later_completions_no_effect_composed (hwf : w.wf) (h : WhenU.Reachable w S) {l : WhenU.Label} {S' : WhenU.State}
    (hs : WhenU.Step w S l S') {o : OutVal} (ho : S.wh.outSet = [o]) : S'.wh.outSet = [o] := by
  have hW := (WhenU.sim hwf h).1
  have hlen := (inv_reachable hwf (WhenU.sim hwf (.step h hs)).1).o.len
  cases hs with
  | «when» l wh' hl hst => exact later_completions_no_effect hwf hW hst ho
  | prod i old u' hi hu => exact ho
  | cload i x u' hr hu => exact ho
  | casFail i u' hr hu => exact ho
  | casOk i u' hr hu => simpa [doRegSet] using ho
  | enterC i r u' hr hu => simpa [doRegSet] using ho
  | enterP i r u' hi hu => simpa [doFire] using ho

/-- at quiescence of the composed system: exactly one output, every input's callback entered and released exactly once -/
theorem any_quiescent_complete_composed (hwf : w.wf) (hn : w.n ≠ 0) (h : WhenU.Reachable w S)
    (hq : ∀ l S', ¬ WhenU.Step w S l S') :
    S.wh.outSet.length = 1 ∧ ∀ i, i < w.n → S.wh.pc i = .done ∧ S.wh.released i = 1 ∧ (S.u i).delivered.length = 1 := by
  obtain ⟨hW, hK⟩ := WhenU.sim hwf h
  obtain ⟨hqw, _, _⟩ := WhenU.quiescent_parts hwf h hq
  have hI := inv_reachable hwf hW
  have hd := done_of_quiescent hI.c (invb_reachable hwf hW).not_crashed hqw
  have hc := complete_of_all_done hI.c hI.o hn hd
  refine ⟨hc.1, fun i hi => ⟨hd i hi, (hc.2 i hi).2, ?_⟩⟩
  rw [← hK.entries i]; exact (hc.2 i hi).1

end Composed

/-! ### inputs as real shared cores (Model/WhenComposeShared.lean, see Props/C09.lean `shared_input_interface_sound`): the
WhenAny theorems hold in the composition of the When model with n instances of the C06 SharedFuture model (observer 0 = the
combinator's registration, any other observers with arbitrary programs), entries synchronised -/

section ComposedShared
variable {W : WhenS.Workload} {T : WhenS.State}

theorem any_shared_input_interface_sound (hwf : W.w.wf) (h : WhenS.Reachable W T) :
    Reachable W.w T.wh ∧ ∀ i, T.wh.consumed i = (Shared.firedIds (T.sh i)).count WhenS.cb0 :=
  ⟨(WhenS.sim hwf h).1, (WhenS.sim hwf h).2.entries⟩

theorem any_set_once_shared (hwf : W.w.wf) (ha : IsAny W.w) (h : WhenS.Reachable W T) :
    T.wh.outSet.length ≤ 1 ∧ ∀ o, o ∈ T.wh.outSet → ∃ k, k < W.w.n ∧ o = .one (W.w.inp k) :=
  any_set_once hwf ha (WhenS.sim hwf h).1

theorem any_lastfail_spec_shared (hwf : W.w.wf) (hs : W.w.strat = .anyLF) (h : WhenS.Reachable W T) :
    ∀ o, o ∈ T.wh.outSet → ∃ k, T.wh.win = some k ∧ k < W.w.n ∧ o = .one (W.w.inp k) ∧
      (match T.wh.rmwOrder.find? (isVal W.w) with
       | some v => k = v
       | none => T.wh.rmwOrder.getLast? = some k ∧ ∀ j, j < W.w.n → ok (W.w.inp j) = false) :=
  any_lastfail_spec hwf hs (WhenS.sim hwf h).1

theorem any_firstfail_spec_shared (hwf : W.w.wf) (hs : W.w.strat = .anyFF) (h : WhenS.Reachable W T) :
    ∀ o, o ∈ T.wh.outSet →
      (match T.wh.rmwOrder.find? (isVal W.w) with
       | some v => T.wh.win = some v ∧ o = .one (W.w.inp v)
       | none => (∀ j, j < W.w.n → ok (W.w.inp j) = false) ∧
           ∃ e, T.wh.rmwOrder.head? = some e ∧ e < W.w.n ∧ o = .one (W.w.inp e) ∧
             ∀ j, j < W.w.n → holding (T.wh.pc j) = false) :=
  any_firstfail_spec hwf hs (WhenS.sim hwf h).1

theorem any_none_spec_shared (hwf : W.w.wf) (hs : W.w.strat = .anyNone) (h : WhenS.Reachable W T) :
    ∀ o, o ∈ T.wh.outSet → ∃ k, T.wh.rmwOrder.head? = some k ∧ k < W.w.n ∧ o = .one (W.w.inp k) :=
  any_none_spec hwf hs (WhenS.sim hwf h).1

theorem inputs_released_once_shared (hwf : W.w.wf) (h : WhenS.Reachable W T) :
    ∀ i, T.wh.consumed i ≤ 1 ∧ T.wh.released i ≤ 1 :=
  inputs_released_once hwf (WhenS.sim hwf h).1

end ComposedShared

/-! ### packs mixing unique and shared inputs (Model/WhenComposeMixed.lean, see Props/C09.lean `mixed_input_interface_sound`) -/

section ComposedMixed
variable {M : WhenM.Workload} {R : WhenM.State}

theorem any_mixed_input_interface_sound (hwf : M.w.wf) (h : WhenM.Reachable M R) : Reachable M.w R.wh :=
  (WhenM.sim hwf h).1

theorem any_set_once_mixed (hwf : M.w.wf) (ha : IsAny M.w) (h : WhenM.Reachable M R) :
    R.wh.outSet.length ≤ 1 ∧ ∀ o, o ∈ R.wh.outSet → ∃ k, k < M.w.n ∧ o = .one (M.w.inp k) :=
  any_set_once hwf ha (WhenM.sim hwf h).1

theorem any_lastfail_spec_mixed (hwf : M.w.wf) (hs : M.w.strat = .anyLF) (h : WhenM.Reachable M R) :
    ∀ o, o ∈ R.wh.outSet → ∃ k, R.wh.win = some k ∧ k < M.w.n ∧ o = .one (M.w.inp k) ∧
      (match R.wh.rmwOrder.find? (isVal M.w) with
       | some v => k = v
       | none => R.wh.rmwOrder.getLast? = some k ∧ ∀ j, j < M.w.n → ok (M.w.inp j) = false) :=
  any_lastfail_spec hwf hs (WhenM.sim hwf h).1

theorem inputs_released_once_mixed (hwf : M.w.wf) (h : WhenM.Reachable M R) :
    ∀ i, R.wh.consumed i ≤ 1 ∧ R.wh.released i ≤ 1 :=
  inputs_released_once hwf (WhenM.sim hwf h).1

end ComposedMixed

/-! ### non-vacuity -/

/-- LastFail, [failure, value, failure]: failure 0 passes the pre-check, value 1 exchanges and wins, failure 0's late
    `fetch_sub` wraps the counter (odd, still done), failure 2 sees done at once -/
example : ∃ s, Reachable ⟨.anyLF, [.err 0, .val 1, .exc 2]⟩ s ∧ s.outSet = [.one (.val 1)] ∧ s.lf = two64 - 1 ∧
    s.rmwOrder = [1, 0] := by
  let w : Workload := ⟨.anyLF, [.err 0, .val 1, .exc 2]⟩
  have h0 : Reachable w (init w) := .init
  have h1 := validator_run h0 (.regSet 0 true) (by decide +kernel)
  have h2 := validator_run h1 (.regSet 1 true) (by decide +kernel)
  have h3 := validator_run h2 (.regSet 2 true) (by decide +kernel)
  have h4 := validator_run h3 (.fire 0) (by decide +kernel)
  have h5 := validator_run h4 (.retire 0) (by decide +kernel)
  have h6 := validator_run h5 (.loadLf 0 false) (by decide +kernel)
  have h7 := validator_run h6 (.fire 1) (by decide +kernel)
  have h8 := validator_run h7 (.retire 1) (by decide +kernel)
  have h9 := validator_run h8 (.loadLf 1 false) (by decide +kernel)
  have h10 := validator_run h9 (.xchgLf 1 6) (by decide +kernel)
  have h11 := validator_run h10 (.setOut 1 (.one (.val 1))) (by decide +kernel)
  have h12 := validator_run h11 (.fsubLf 0 1) (by decide +kernel)          -- wraps
  have h13 := validator_run h12 (.fire 2) (by decide +kernel)
  have h14 := validator_run h13 (.retire 2) (by decide +kernel)
  have h15 := validator_run h14 (.loadLf 2 true) (by decide +kernel)
  exact ⟨_, h15, by decide +kernel, by decide +kernel, by decide +kernel⟩

/-- LastFail, every input fails: the last `fetch_sub` (old value 2) publishes its own failure -/
example : ∃ s, Reachable ⟨.anyLF, [.err 0, .exc 1]⟩ s ∧ s.outSet = [.one (.err 0)] ∧ s.rmwOrder = [1, 0] := by
  let w : Workload := ⟨.anyLF, [.err 0, .exc 1]⟩
  have h0 : Reachable w (init w) := .init
  have h1 := validator_run h0 (.regSet 0 true) (by decide +kernel)
  have h2 := validator_run h1 (.regSet 1 false) (by decide +kernel)
  have h3 := validator_run h2 (.retire 1) (by decide +kernel)
  have h4 := validator_run h3 (.loadLf 1 false) (by decide +kernel)
  have h5 := validator_run h4 (.fsubLf 1 4) (by decide +kernel)
  have h6 := validator_run h5 (.dec 1 2) (by decide +kernel)
  have h7 := validator_run h6 (.fire 0) (by decide +kernel)
  have h8 := validator_run h7 (.retire 0) (by decide +kernel)
  have h9 := validator_run h8 (.loadLf 0 false) (by decide +kernel)
  have h10 := validator_run h9 (.fsubLf 0 2) (by decide +kernel)
  have h11 := validator_run h10 (.setOut 0 (.one (.err 0))) (by decide +kernel)
  exact ⟨_, h11, by decide +kernel, by decide +kernel⟩

/-- FirstFail, every input fails: the first CAS saves its failure, the destructor of the last consumption publishes it -/
example : ∃ s, Reachable ⟨.anyFF, [.err 0, .exc 1]⟩ s ∧ s.outSet = [.one (.exc 1)] ∧ s.rmwOrder = [1] := by
  have h := runL_preserves (next := next ⟨.anyFF, [.err 0, .exc 1]⟩) validator_sound .init
    [.regSet 0 true, .regSet 1 true, .fire 1, .retire 1, .load3 1 .empty, .cas3 1 true, .dec 1 2, .fire 0, .retire 0,
     .load3 0 .error, .dec 0 1, .dtorSet 0 (.one (.exc 1))] rfl
  exact ⟨_, h, rfl, rfl⟩

/-- FirstFail, a failure first, then a value: the value wins although a failure was saved -/
example : ∃ s, Reachable ⟨.anyFF, [.err 0, .val 1]⟩ s ∧ s.outSet = [.one (.val 1)] ∧ s.errBy = some 0 := by
  have h := runL_preserves (next := next ⟨.anyFF, [.err 0, .val 1]⟩) validator_sound .init
    [.regSet 0 false, .retire 0, .load3 0 .empty, .cas3 0 true, .dec 0 2, .regSet 1 false, .retire 1, .load3 1 .error,
     .xchg3 1 .error, .setOut 1 (.one (.val 1))] rfl
  exact ⟨_, h, rfl, rfl⟩

end Yaclib.Props.C10

/-! ### tie to the source (T2) -/
namespace Yaclib.Props.C10.Tie
open Yaclib

theorem tie_Any_Consume : Extracted.Kernels.WhenAny_Consume = Skeletons.WhenAny_Consume := rfl
theorem tie_Any_dtor_FirstFail : Extracted.Kernels.WhenAny_dtor_FirstFail = Skeletons.WhenAny_dtor_FirstFail := rfl
theorem tie_Any_DoneImpl : Extracted.Kernels.WhenAny_DoneImpl = Skeletons.WhenAny_DoneImpl := rfl
theorem tie_WhenAny_front : Extracted.Kernels.WhenAny_front = Skeletons.WhenAny_front := rfl
theorem tie_When : Extracted.Kernels.When_When = Skeletons.When_When := rfl
theorem tie_Consume : Extracted.Kernels.When_Consume = Skeletons.When_Consume := rfl
theorem tie_ConsumeImpl : Extracted.Kernels.When_ConsumeImpl = Skeletons.When_ConsumeImpl := rfl
theorem tie_CombinatorCallback_Impl :
    Extracted.Kernels.When_CombinatorCallback_Impl = Skeletons.When_CombinatorCallback_Impl := rfl
theorem tie_SingleCombinator_Set : Extracted.Kernels.When_SingleCombinator_Set = Skeletons.When_SingleCombinator_Set := rfl
theorem tie_SingleCombinator_SetCore :
    Extracted.Kernels.When_SingleCombinator_SetCore = Skeletons.When_SingleCombinator_SetCore := rfl
theorem tie_SingleCombinator_Impl : Extracted.Kernels.When_SingleCombinator_Impl = Skeletons.When_SingleCombinator_Impl := rfl
theorem tie_StaticCombinator_SetCore :
    Extracted.Kernels.When_StaticCombinator_SetCore = Skeletons.When_StaticCombinator_SetCore := rfl
theorem tie_DynamicCombinator_Set : Extracted.Kernels.When_DynamicCombinator_Set = Skeletons.When_DynamicCombinator_Set := rfl
theorem tie_AtomicCounter_SubEqual : Extracted.Kernels.AtomicCounter_SubEqual = Skeletons.AtomicCounter_SubEqual := rfl
theorem tie_Helper_DecRef : Extracted.Kernels.Helper_DecRef = Skeletons.Helper_DecRef := rfl
theorem tie_GetCallbackHelper :
    Extracted.Kernels.When_StaticCombinator_GetCallbackHelper = Skeletons.When_StaticCombinator_GetCallbackHelper := rfl
theorem tie_StaticCombinator_InitImpl :
    Extracted.Kernels.When_StaticCombinator_InitImpl = Skeletons.When_StaticCombinator_InitImpl := rfl
theorem tie_CombinatorCallback_Here : Extracted.Kernels.When_CombinatorCallback_Here = Skeletons.When_CombinatorCallback_Here := rfl
theorem tie_SingleCombinator_Here : Extracted.Kernels.When_SingleCombinator_Here = Skeletons.When_SingleCombinator_Here := rfl
theorem tie_TranslateIndexImpl_Index :
    Extracted.Kernels.TypeTraits_TranslateIndexImpl_Index = Skeletons.TypeTraits_TranslateIndexImpl_Index := rfl
theorem tie_IndexOf_Index : Extracted.Kernels.TypeTraits_IndexOf_Index = Skeletons.TypeTraits_IndexOf_Index := rfl
/-! whole-declaration source ties (comments and white space dropped): policy constants, callback tuples and node lookup
    (`translate_index_v` vs `index_of_v`), the alias that selects the combinator type, member initialisers, metafunctions -/
theorem tie_src_when_hpp : Extracted.Kernels.WhenSrc_when_hpp = Skeletons.WhenSrc_when_hpp := rfl
theorem tie_src_combinator_strategy_hpp :
    Extracted.Kernels.WhenSrc_combinator_strategy_hpp = Skeletons.WhenSrc_combinator_strategy_hpp := rfl
theorem tie_src_fail_policy_hpp : Extracted.Kernels.WhenSrc_fail_policy_hpp = Skeletons.WhenSrc_fail_policy_hpp := rfl
theorem tie_src_type_traits_inputs : Extracted.Kernels.WhenSrc_type_traits_inputs = Skeletons.WhenSrc_type_traits_inputs := rfl
theorem tie_src_type_traits_tuples : Extracted.Kernels.WhenSrc_type_traits_tuples = Skeletons.WhenSrc_type_traits_tuples := rfl
theorem tie_src_any_hpp : Extracted.Kernels.WhenSrc_any_hpp = Skeletons.WhenSrc_any_hpp := rfl
theorem tie_src_when_any_hpp : Extracted.Kernels.WhenSrc_when_any_hpp = Skeletons.WhenSrc_when_any_hpp := rfl

end Yaclib.Props.C10.Tie
