/-
C15 — coroutine SharedMutex: writers exclude all, readers share, nobody is forgotten.

Property theorems about the model `Yaclib.CoSharedMutex` (Model/CoSharedMutex.lean) for **every** configuration
`cfg : Cfg` — both template options `fifo`, `rfifo` (all four combinations; the invariant proof is parametric in them),
any number of coroutines, any program of shared / exclusive / try rounds per coroutine — every interleaving at
atomic-operation granularity (including the operations on `_readers_wait` and on the spinlock word), every spurious
weak-CAS failure and every stale pre-check load.  The inductive invariant (60 clauses: the links between program
counters and queues, and the accounting invariants J1–J6) is in Proofs/CoSharedMutex*.lean.
Nothing here is `_partial`: safety, the accounting invariants, exactly-once and the quiescence theorem are proved for all
four option combinations.
-/
import YaclibModel.Base.Run
import YaclibModel.Proofs.CoSharedMutexProgress
import YaclibModel.Proofs.CoSharedMutexExecInst
import YaclibModel.Extracted.Kernels
import YaclibModel.Model.Skeletons

namespace Yaclib.Props.C15
open Yaclib.CoSharedMutex

variable {cfg : Cfg} {s : State}

/-- owns the exclusive lock: granted and runnable, or inside the exclusive section -/
def HoldsExcl (p : Pc) : Prop := p = .wacq ∨ p = .wcs
/-- owns a shared lock: granted and runnable, or inside the shared section -/
def HoldsShared (p : Pc) : Prop := p = .racq ∨ p = .rcs

theorem excl_owner (h : Reachable cfg s) {c : Cid} (hc : HoldsExcl (s.pc c)) : s.excl = some c := by
  apply ((inv_reachable h).l_excl c).mp
  rcases hc with hc | hc <;> rw [hc] <;> rfl

theorem no_shared_of_excl (h : Reachable cfg s) (he : s.excl ≠ none) (d : Cid) : ¬ HoldsShared (s.pc d) := by
  intro hd
  have hi := inv_reachable h
  have h0 := (hi.j2 he).1
  have h1 := hi.l_ar d
  have h2 := @List.count_le_length _ _ d s.ar
  have : (s.pc d).isAR = true := by rcases hd with hd | hd <;> rw [hd] <;> rfl
  rw [this] at h1
  simp at h1
  omega

/-- a coroutine holding the exclusive lock never overlaps with any other holder … -/
theorem writer_excludes_all (h : Reachable cfg s) {c : Cid} (hc : HoldsExcl (s.pc c)) (d : Cid) (hd : d ≠ c) :
    ¬ HoldsExcl (s.pc d) ∧ ¬ HoldsShared (s.pc d) := by
  have he := excl_owner h hc
  refine ⟨fun hx => ?_, no_shared_of_excl h (by rw [he]; simp) d⟩
  have := excl_owner h hx
  rw [he] at this
  exact hd (Option.some.inj this).symm

/-- … shared holders overlap only with each other -/
theorem readers_only_with_readers (h : Reachable cfg s) {c : Cid} (hc : HoldsShared (s.pc c)) (d : Cid) :
    ¬ HoldsExcl (s.pc d) := by
  intro hd
  have he := excl_owner h hd
  exact no_shared_of_excl h (by rw [he]; simp) c hc

/-- `TryLock`/`TryGuard` (and the fast path of `Lock`/`Guard`) succeed only when nobody holds anything … -/
theorem try_only_compatible (h : Reachable cfg s) {c : Cid} {s' : State} (hs : Step s (.twCas c true) s') :
    s.W = 0 ∧ s.R = 0 ∧ ∀ d, ¬ HoldsExcl (s.pc d) ∧ ¬ HoldsShared (s.pc d) := by
  have hi := inv_reachable h
  cases hs with
  | twCasOk _ hpc hW hR =>
      refine ⟨hW, hR, fun d => ⟨fun hd => ?_, fun hd => ?_⟩⟩
      · have := excl_owner h hd
        rw [hi.w0_excl hW] at this; cases this
      · have h4 := hi.j4
        have h1 := hi.l_ar d
        have h2 := @List.count_le_length _ _ d s.ar
        have : (s.pc d).isAR = true := by rcases hd with hd | hd <;> rw [hd] <;> rfl
        rw [this] at h1; simp at h1
        omega

/-- … and `TryLockShared`/`TryGuardShared` only when no coroutine holds the exclusive lock -/
theorem try_shared_only_compatible (h : Reachable cfg s) {c : Cid} {s' : State} (hs : Step s (.trCas c true) s') :
    s.W = 0 ∧ ∀ d, ¬ HoldsExcl (s.pc d) := by
  have hi := inv_reachable h
  cases hs with
  | trCasOk _ r hpc hW hR =>
      refine ⟨hW, fun d hd => ?_⟩
      have := excl_owner h hd
      rw [hi.w0_excl hW] at this; cases this

/-- the fast path of `LockShared` (`fetch_add` saw no writer counted) is taken only when nobody holds the exclusive lock -/
theorem shared_fast_path_compatible (h : Reachable cfg s) {c : Cid} {s' : State} (hs : Step s (.rdFadd c) s')
    (hacq : s'.pc c = .racq) : s.W = 0 ∧ ∀ d, ¬ HoldsExcl (s.pc d) := by
  have hi := inv_reachable h
  cases hs with
  | rdFadd _ hpc ht ho =>
      by_cases hW : s.W = 0
      · refine ⟨hW, fun d hd => ?_⟩
        have := excl_owner h hd
        rw [hi.w0_excl hW] at this; cases this
      · simp [doRdFadd, hW, upd] at hacq

/-- the accounting invariants J1–J6 (and the links they rest on) hold in every reachable state -/
theorem accounting_inv (h : Reachable cfg s) : Inv cfg s := inv_reachable h

/-- J4: the low half of the word counts the readers that own a shared lock, are queued, or are in flight -/
theorem j4_readers (h : Reachable cfg s) : s.R = s.ar.length + s.torun.length + s.Q.length + s.ifl.length :=
  (inv_reachable h).j4

/-- J5: the high half counts the exclusivity owner (while it has not yet given its count back), the pending first
    writer, the queued writers and the writer inside the enqueueing block -/
theorem j5_writers (h : Reachable cfg s) :
    s.W = s.ew + (if s.pw.isSome then 1 else 0) + s.WQ.length + s.enq := (inv_reachable h).j5

/-- J2: while a writer owns exclusivity no reader owns, is leaving, or can pass, and no first writer is pending -/
theorem j2_exclusive (h : Reachable cfg s) (he : s.excl ≠ none) :
    s.ar.length = 0 ∧ s.torun.length = 0 ∧ s.lv.length = 0 ∧ s.pass = 0 ∧ s.pw = .none := (inv_reachable h).j2 he

/-- J3: the debt: before it is posted `_readers_wait` is minus what was already paid, afterwards it is the number of
    payers that remain (owners + pass credits + readers between their two atomics), and it is ≥ 1 while the writer waits -/
theorem j3_debt (h : Reachable cfg s) :
    (∀ n r, s.pw = .a n r →
      s.rwait = ((s.ar.length + s.torun.length + s.pass + s.lv.length : Nat) : Int) - (r : Int) ∧ s.rwait ≤ 0) ∧
    (∀ n, s.pw = .b n → s.rwait = ((s.ar.length + s.torun.length + s.pass + s.lv.length : Nat) : Int) ∧ 1 ≤ s.rwait) ∧
    (∀ n b, s.pw = .c n b → s.rwait = 0 ∧ s.ar.length = 0 ∧ s.torun.length = 0 ∧ s.lv.length = 0 ∧ s.pass = 0) :=
  ⟨(inv_reachable h).j3a, (inv_reachable h).j3b, (inv_reachable h).j3c⟩

/-- J1: with no writer counted the pass credits (incl. those a departing writer is about to add) are exactly the readers
    in flight, nobody is queued, no debt -/
theorem j1_no_writer (h : Reachable cfg s) (hW : s.W = 0) :
    s.pass + s.pend = s.ifl.length ∧ (s.pendBy = none → s.Q.length = 0) ∧ s.WQ.length = 0 ∧ s.excl = none ∧
    s.pw = .none ∧ s.rwait = 0 ∧ s.lv.length = 0 := by
  have hi := inv_reachable h
  have he := hi.w0_excl hW
  have h5 := hi.j5
  have hpw : s.pw = .none := by
    cases hp : s.pw.isSome
    · exact PW.eq_none_of_isSome hp
    · rw [hW, hp] at h5; simp at h5 <;> omega
  refine ⟨(hi.j1 hW).1, (hi.j1 hW).2, by omega, he, hpw, hi.j3n he hpw, hi.lv_pw (by rw [hpw]; rfl)⟩

/-- J6 (FIFO): `_writers_prio` counts the queued writers that precede the queued readers -/
theorem j6_prio (h : Reachable cfg s) (hf : cfg.fifo = true) :
    s.prio ≤ s.WQ.length ∧ (s.Q.length = 0 → s.prio = s.WQ.length) := by
  have hi := inv_reachable h
  exact hi.j6 (by rw [hi.hcfg]; exact hf)

/-- the only plain `store` to `_readers_wait` (RunReaders with other writers waiting) overwrites 0, and no payer can
    run concurrently: nobody owns a shared lock or is between the two atomics of UnlockHereShared -/
theorem store_over_zero (h : Reachable cfg s) {c : Cid} {s' : State} (hs : Step s (.rwStore c) s') :
    s.rwait = 0 ∧ s.ar.length = 0 ∧ s.torun.length = 0 ∧ s.lv.length = 0 ∧ s.pass = 0 := by
  have hi := inv_reachable h
  cases hs with
  | rwStore _ sw hpc hsp =>
      have he := (hi.l_excl c).mp (by rw [hpc]; rfl)
      have h2 := hi.j2 (by rw [he]; simp)
      have hw := hi.j2w c he
      rw [hpc] at hw
      exact ⟨by simpa [Pc.isStoredUnl] using hw, h2.1, h2.2.1, h2.2.2.1, h2.2.2.2.1⟩

/-- absence of borrow between the halves of the packed word: `fetch_sub(kReader)` finds `R ≥ 1`,
    `fetch_sub(kWriter)` finds `W ≥ 1` -/
theorem no_borrow (h : Reachable cfg s) {l : Label} {s' : State} (hs : Step s l s') :
    (∀ c, l = .rdFsub c → 1 ≤ s.R) ∧ (∀ c, l = .wuFsub c → 1 ≤ s.W) := by
  have hi := inv_reachable h
  refine ⟨fun c hl => ?_, fun c hl => ?_⟩
  · subst hl
    cases hs with
    | rdFsub _ hpc =>
        have h1 := hi.l_ar c
        rw [hpc] at h1
        have h2 := @List.count_le_length _ _ c s.ar
        have h4 := hi.j4
        simp [Pc.isAR] at h1
        omega
  · subst hl
    cases hs with
    | wuFsub _ hpc hsp =>
        have he := (hi.l_excl c).mp (by rw [hpc]; rfl)
        have h1 := hi.l_ew_some c he
        rw [hpc] at h1
        have h5 := hi.j5
        simp [Pc.isCntW] at h1
        omega

/-- `_readers_pass += r - _readers_size` never wraps: the readers registered in the word include the queued ones -/
theorem pass_no_underflow (h : Reachable cfg s) {c : Cid} {sr : Nat}
    (hpc : s.pc c = .uUnl (.readersPass sr) ∨ s.pc c = .uUnl (.passOnly sr)) : s.qsize ≤ sr :=
  (inv_reachable h).pass_ge c sr hpc

/-- exactly once: every park of `c` is matched by exactly one `Run(c)`, except the one it is currently parked for … -/
theorem grant_once (h : Reachable cfg s) (c : Cid) :
    s.parks c = s.grants c + (if (s.pc c).isParked then 1 else 0) := (inv_reachable h).parks c

/-- … and every round is one section entered or one reported try failure -/
theorem rounds_accounted (h : Reachable cfg s) (c : Cid) :
    s.enters c + s.fails c + (s.todo c).length = (cfg.prog c).length + (if (s.pc c).isInRound then 1 else 0) :=
  (inv_reachable h).rounds c

/-- no lost wake-up, no reader or writer parked forever (safety form), for every <FIFO, ReadersFIFO>: a state in which
    no step is enabled is a state in which nobody is parked or queued, the word, the debt and the credits are 0, the
    spinlock is free, and every coroutine has completed every round of its program exactly once -/
theorem quiescent_none_parked (h : Reachable cfg s) (hq : ∀ l s', ¬ Step s l s') :
    s.W = 0 ∧ s.R = 0 ∧ s.rwait = 0 ∧ s.spin = .free ∧ s.Q.length = 0 ∧ s.WQ.length = 0 ∧ s.pass = 0 ∧
    ∀ c, s.pc c = .idle ∧ s.todo c = [] ∧ s.enters c + s.fails c = (cfg.prog c).length ∧ s.parks c = s.grants c := by
  have hi := inv_reachable h
  have hall := quiescent hi hq
  have hfree := spin_free_of_quiescent hi hq
  have hnone : ∀ {l : List Cid} {P : Pc → Bool}, (∀ c, l.count c = if P (s.pc c) then 1 else 0) → P .idle = false →
      l.length = 0 := by
    intro l P hl hP
    cases l with
    | nil => rfl
    | cons a t =>
        have := hl a
        rw [(hall a).1, hP] at this
        simp at this
  have har : s.ar.length = 0 := hnone hi.l_ar rfl
  have hifl : s.ifl.length = 0 := hnone hi.l_ifl rfl
  have htorun : s.torun.length = 0 := hnone (P := fun p => decide (p = .rgranted)) (by intro c; simpa using hi.l_torun c) rfl
  have hQ : s.Q.length = 0 := hnone (P := fun p => decide (p = .rparked)) (by intro c; simpa using hi.l_q c) rfl
  have hWQ : s.WQ.length = 0 := hnone (P := fun p => decide (p = .wparkedQ)) (by intro c; simpa using hi.l_wq c) rfl
  have hexcl : s.excl = none := by
    cases he : s.excl with
    | none => rfl
    | some x => have := (hi.l_excl x).mpr he; rw [(hall x).1] at this; cases this
  have hpw : s.pw = .none := by
    cases hp : s.pw with
    | none => rfl
    | a n r => have := hi.pw_a n r hp; rw [(hall n).1] at this; cases this
    | b n => have := hi.pw_b n hp; rw [(hall n).1] at this; cases this
    | c n b => have := (hi.pw_c n b hp).1; rw [(hall n).1] at this; cases this
  have hW : s.W = 0 := by
    have h5 := hi.j5
    rw [hi.l_ew_none hexcl, hpw, hWQ, hi.l_enq_free hfree] at h5
    simpa using h5
  have hR : s.R = 0 := by have := hi.j4; omega
  have hpass : s.pass = 0 := by have := hi.jp_le; omega
  refine ⟨hW, hR, hi.j3n hexcl hpw, hfree, hQ, hWQ, hpass, fun c => ?_⟩
  obtain ⟨hp, ht⟩ := hall c
  have h1 := hi.rounds c
  have h2 := hi.parks c
  rw [hp, ht] at h1
  rw [hp] at h2
  simp [Pc.isInRound] at h1
  simp [Pc.isParked] at h2
  exact ⟨hp, ht, h1, h2⟩

/-- waiting holds no thread: a parked coroutine (queued reader or writer, pending first writer, or taken out of a
    queue but not yet submitted) executes no step -/
theorem waiting_holds_no_thread (_h : Reachable cfg s) {c : Cid} (hp : (s.pc c).isParked = true) {l : Label} {s' : State}
    (hs : Step s l s') : l.agent ≠ .co c := by
  have hne : ∀ c' : Cid, (s.pc c').isParked = false → Agent.co c' ≠ Agent.co c := by
    intro c' hc' he; cases he; rw [hp] at hc'; cases hc'
  cases hs with
  | rdFadd c' h' _ _ => exact hne c' (by rw [h']; rfl)
  | spinOk c' k h' _ => exact hne c' (by rw [h']; cases k <;> rfl)
  | spinBusy c' k h' _ => exact hne c' (by rw [h']; cases k <;> rfl)
  | spinLoad c' k _ h' => exact hne c' (by rw [h']; cases k <;> rfl)
  | rdUnlock c' h' _ => exact hne c' (by rw [h']; rfl)
  | enterR c' h' => exact hne c' (by rw [h']; rfl)
  | enterW c' h' => exact hne c' (by rw [h']; rfl)
  | exitR c' h' => exact hne c' (by rw [h']; rfl)
  | exitW c' h' => exact hne c' (by rw [h']; rfl)
  | rdFsub c' h' => exact hne c' (by rw [h']; rfl)
  | rwFsub c' h' => exact hne c' (by rw [h']; rfl)
  | runFirst c' _ h' _ => exact hne c' (by rw [h']; rfl)
  | trBegin c' _ _ h' _ _ => exact hne c' (by rw [h']; rfl)
  | trFail c' _ _ h' _ => exact hne c' (by rw [h']; rfl)
  | trCasOk c' _ h' _ _ => exact hne c' (by rw [h']; rfl)
  | trCasFail c' _ h' => exact hne c' (by rw [h']; rfl)
  | twLoad c' _ h' _ _ => exact hne c' (by rw [h']; rfl)
  | twCasOk c' h' _ _ => exact hne c' (by rw [h']; rfl)
  | twCasFail c' h' _ => exact hne c' (by rw [h']; rfl)
  | tryFailW c' h' => exact hne c' (by rw [h']; rfl)
  | wrFadd c' h' _ => exact hne c' (by rw [h']; rfl)
  | wrPost c' _ h' _ => exact hne c' (by rw [h']; rfl)
  | wUnlock c' k h' _ => exact hne c' (by rw [h']; cases k <;> rfl)
  | tailUnlock c' _ => simp [Label.agent]
  | wuCasOk c' h' _ _ => exact hne c' (by rw [h']; rfl)
  | wuCasFail c' h' _ => exact hne c' (by rw [h']; rfl)
  | wuFsub c' h' _ => exact hne c' (by rw [h']; rfl)
  | rwStore c' _ h' _ => exact hne c' (by rw [h']; rfl)
  | uUnlockW c' b _ _ h' _ _ _ => exact hne c' (by rw [h']; cases b <;> rfl)
  | uUnlockP c' b h' _ _ => exact hne c' (by rw [h']; cases b <;> rfl)
  | runW c' _ h' => exact hne c' (by rw [h']; rfl)
  | runR c' _ _ h' _ => exact hne c' (by rw [h']; rfl)

/-! ### the two abstractions of machine arithmetic are exact -/

/-- the unsigned 32-bit comparisons `== 1` and `!= -r` on `_readers_wait` agree with the comparisons on the integer
    the model keeps, as long as the magnitudes stay below 2³¹ (the number of coroutines does: `reg_bound`) -/
theorem u32_compare_exact (x y : Int) (hx : -2147483648 < x ∧ x < 2147483648) (hy : -2147483648 < y ∧ y < 2147483648) :
    x % 4294967296 = y % 4294967296 ↔ x = y := by
  constructor
  · intro h; omega
  · intro h; rw [h]

theorem nodup_bound : ∀ (n : Nat) (l : List Nat), (∀ x, l.count x ≤ 1) → (∀ x, x ∈ l → x < n) → l.length ≤ n := by
  intro n
  induction n with
  | zero =>
      intro l _ hm
      cases l with
      | nil => simp
      | cons a t => exact absurd (hm a (by simp)) (by omega)
  | succ n ih =>
      intro l hc hm
      have hlen : l.length ≤ (l.erase n).length + 1 := by
        rw [List.length_erase]; split <;> omega
      have := ih (l.erase n)
        (fun x => by
          have := hc x
          by_cases hx : x = n
          · subst hx; rw [List.count_erase_self]; omega
          · rw [List.count_erase_of_ne hx]; exact this)
        (fun x hx => by
          have hxl : x ∈ l := List.mem_of_mem_erase hx
          have hlt := hm x hxl
          have hne : x ≠ n := by
            intro he; subst he
            have h1 := hc x
            have h2 : 0 < (l.erase x).count x := List.count_pos_iff.mpr hx
            rw [List.count_erase_self] at h2
            omega
          omega)
      omega

/-- absence of carry: with at most `n` coroutines (everybody else has an empty program) both halves of the packed
    word stay far below 2³² — `R ≤ 4·n`, `W ≤ n + 3` — for `n < 2³⁰` no `fetch_add` can carry into the other half -/
theorem reg_bound (h : Reachable cfg s) (n : Nat) (hn : ∀ c, n ≤ c → cfg.prog c = []) :
    s.R ≤ 4 * n ∧ s.W ≤ n + 3 := by
  have hi := inv_reachable h
  have key : ∀ {l : List Cid} {P : Pc → Bool}, (∀ c, l.count c = if P (s.pc c) then 1 else 0) → P .idle = false →
      l.length ≤ n := by
    intro l P hl hP
    apply nodup_bound n l
    · intro x; rw [hl x]; split <;> omega
    · intro x hx
      have h1 : 0 < l.count x := List.count_pos_iff.mpr hx
      rw [hl x] at h1
      cases Nat.lt_or_ge x n with
      | inl hlt => exact hlt
      | inr hge =>
          have := hi.out_idle x (hn x hge)
          rw [this, hP] at h1
          simp at h1
  have h1 : s.ar.length ≤ n := key hi.l_ar rfl
  have h2 : s.ifl.length ≤ n := key hi.l_ifl rfl
  have h3 : s.torun.length ≤ n := key (P := fun p => decide (p = .rgranted)) (by intro c; simpa using hi.l_torun c) rfl
  have h4 : s.Q.length ≤ n := key (P := fun p => decide (p = .rparked)) (by intro c; simpa using hi.l_q c) rfl
  have h5 : s.WQ.length ≤ n := key (P := fun p => decide (p = .wparkedQ)) (by intro c; simpa using hi.l_wq c) rfl
  have hR := hi.j4
  have hW := hi.j5
  have hew : s.ew ≤ 1 := by
    cases he : s.excl with
    | none => rw [hi.l_ew_none he]; omega
    | some x => rw [hi.l_ew_some x he]; split <;> omega
  have henq : s.enq ≤ 1 := by
    cases hsp : s.spin with
    | free => rw [hi.l_enq_free hsp]; omega
    | tailOf x => rw [hi.l_enq_tail x hsp]; omega
    | held x => rw [hi.l_enq_held x hsp]; split <;> omega
  refine ⟨by omega, ?_⟩
  split at hW <;> omega

/-- everything the trace validator accepts is a behaviour the theorems speak about -/
theorem validator_sound {l : Label} {s' : State} (h : Reachable cfg s) (hn : next s l = some s') : Reachable cfg s' :=
  .step h (next_sound hn)

/-! ### non-vacuity: concrete workloads reach the interesting states -/

def prog3 (p0 p1 p2 : List Op) : Cid → List Op := fun c => if c = 0 then p0 else if c = 1 then p1 else if c = 2 then p2 else []

/-- a reader holds, a writer arrives (first writer, debt 1 posted, parks), the reader's unlock pays the debt and runs
    the writer — while the writer's own `_lock.unlock()` is still pending (detached tail) -/
example : ∃ s, Reachable ⟨true, false, prog3 [.rd] [.wr] []⟩ s ∧ s.pc 1 = .wcs ∧ s.spin = .tailOf 1 ∧ s.rwait = 0 ∧
    s.grants 1 = 1 := by
  have h : Reachable ⟨true, false, prog3 [.rd] [.wr] []⟩ _ := runL_preserves (next := next) validator_sound .init
    [.rdFadd 0, .enter 0, .twLoad 1 false, .spinXchg 1 true, .wrFadd 1, .wrPost 1, .exit 0, .rdFsub 0, .rwFsub 0,
     .runFirst 0 1, .enter 1] rfl
  exact ⟨_, h, rfl, rfl, rfl, rfl⟩

/-- the reader pays *before* the debt is posted (`_readers_wait` goes to -1, i.e. 2³²-1); the writer's
    `fetch_add(1)` then returns `-r`, so it does not park -/
example : ∃ s, Reachable ⟨false, false, prog3 [.rd] [.wr] []⟩ s ∧ s.pc 1 = .wcs ∧ s.rwait = 0 ∧ s.parks 1 = 0 := by
  have h : Reachable ⟨false, false, prog3 [.rd] [.wr] []⟩ _ := runL_preserves (next := next) validator_sound .init
    [.rdFadd 0, .enter 0,
     .twLoad 1 true,  -- stale pre-check
     .twCas 1 false, .spinXchg 1 true, .wrFadd 1, .exit 0, .rdFsub 0,
     .rwFsub 0,  -- early payment: rwait = -1
     .wrPost 1, .wUnlock 1, .enter 1] rfl
  exact ⟨_, h, rfl, rfl, rfl⟩

/-- a writer holds, a reader and a second writer queue up; SlowUnlock takes the RunReaders path with another writer
    waiting: plain store of the debt, the second writer becomes `_writers_first`, the reader is run -/
example : ∃ s, Reachable ⟨false, true, prog3 [.wr] [.rd] [.wr]⟩ s ∧ s.pc 1 = .racq ∧ s.pw = .b 2 ∧ s.rwait = 1 ∧
    s.wfirst = some 2 ∧ s.pc 0 = .idle := by
  have h : Reachable ⟨false, true, prog3 [.wr] [.rd] [.wr]⟩ _ := runL_preserves (next := next) validator_sound .init
    [.twLoad 0 true, .twCas 0 true, .enter 0, .rdFadd 1, .spinXchg 1 true, .twLoad 2 false,
     .spinXchg 2 false,  -- the spinlock is taken
     .rdUnlock 1,  -- the reader parks
     .spinLoad 2 true, .spinXchg 2 true, .wrFadd 2,
     .wUnlock 2,  -- the second writer parks in the queue
     .exit 0, .wuCas 0 false, .spinXchg 0 true, .wuFsub 0, .rwStore 0, .uUnlock 0, .runR 0 1] rfl
  exact ⟨_, h, rfl, rfl, rfl, rfl, rfl⟩

/-! ### over a real executor (Proofs/CoSharedMutexExec*.lean)

The premise "executors keep accepting work" made precise, as for C14: every `Run(node)` (`runFirst`, `runW`, `runR`) is a
`Submit` at an executor `E` (an open transition system, Proofs/StrandTower.lean), the resumed coroutine's section is the
body of that job (`call … ret`).  Safety holds over EVERY `E`; "nobody is forgotten" over every `E` that honours the
IExecutor contract and never Drops (a Dropped coroutine would be completed with StopError while owning its lock). -/
section OverExecutor
open Yaclib.Strand (Exec ExecContract)
open Yaclib.CoMutex (NeverDrops)
variable {E : Exec} {x : XState E}

theorem writer_excludes_all_over (h : XReach cfg E x) {c : Cid} (hc : HoldsExcl (x.m.pc c)) (d : Cid) (hd : d ≠ c) :
    ¬ HoldsExcl (x.m.pc d) ∧ ¬ HoldsShared (x.m.pc d) := writer_excludes_all (xshared_projects h).1 hc d hd

theorem readers_only_with_readers_over (h : XReach cfg E x) {c : Cid} (hc : HoldsShared (x.m.pc c)) (d : Cid) :
    ¬ HoldsExcl (x.m.pc d) := readers_only_with_readers (xshared_projects h).1 hc d

theorem grant_once_over (h : XReach cfg E x) (c : Cid) :
    x.m.parks c = x.m.grants c + (if (x.m.pc c).isParked then 1 else 0) := grant_once (xshared_projects h).1 c

/-- the shared mutex is a well-behaved client of its executor -/
theorem executor_protocol_honoured (h : XReach cfg E x) : E.Run x.x x.p := (xshared_projects h).2

/-- nobody is forgotten over every contract-honouring executor that keeps accepting work -/
theorem quiescent_none_parked_over (hc : ExecContract E) (hnd : NeverDrops E) (h : XReach cfg E x)
    (hq : ∀ x', ¬ XStep E x x') :
    x.m.W = 0 ∧ x.m.R = 0 ∧ x.m.rwait = 0 ∧ x.m.spin = .free ∧ x.m.Q.length = 0 ∧ x.m.WQ.length = 0 ∧ x.m.pass = 0 ∧
    ∀ c, x.m.pc c = .idle ∧ x.m.todo c = [] ∧ x.m.enters c + x.m.fails c = (cfg.prog c).length ∧
         x.m.parks c = x.m.grants c :=
  quiescent_none_parked (xshared_projects h).1 (xshared_quiescent hc hnd h hq)

/-- … in particular over Inline, over a drained ManualExecutor, over the FairThreadPool (n ≥ 1) and over any tower of
    Strands on a contract-honouring base (for the last two "never Drops" stays a hypothesis) -/
theorem over_inline {x : XState (Yaclib.Strand.inlineExec true)} (h : XReach cfg _ x) (hq : ∀ x', ¬ XStep _ x x') :
    QuiescentDone cfg x := cosharedmutex_over_inline h hq

theorem over_manual {x : XState (Yaclib.Strand.manualExec false)} (h : XReach cfg _ x) (hq : ∀ x', ¬ XStep _ x x') :
    QuiescentDone cfg x := cosharedmutex_over_manual h hq

theorem over_pool {n : Nat} (hn : 0 < n) (stop : Option Yaclib.Pool.StopKind) (spur : Bool)
    (hnd : NeverDrops (Yaclib.Pool.poolExec n stop spur)) {x : XState (Yaclib.Pool.poolExec n stop spur)}
    (h : XReach cfg _ x) (hq : ∀ x', ¬ XStep _ x x') : QuiescentDone cfg x :=
  cosharedmutex_over_pool hn stop spur hnd h hq

theorem over_strand_tower {base : Exec} (hb : ExecContract base) (k : Nat) (hnd : NeverDrops (Yaclib.Strand.tower base k))
    {x : XState (Yaclib.Strand.tower base k)} (h : XReach cfg _ x) (hq : ∀ x', ¬ XStep _ x x') : QuiescentDone cfg x :=
  cosharedmutex_over_strand_tower hb k hnd h hq

theorem xplain {s : XState E} (l : Label) {m' : State} (h : next s.m l = some m') (hs : synced s.job l = false) :
    XStep E s { s with m := m' } := .plain (next_sound h) hs

/-- non-vacuity: over the Inline executor a reader holds, a writer posts its debt and parks; the reader's unlock pays and
    `Run`s the writer = `sub 0`, Inline `call 0`s it, and the writer is inside the exclusive section, the body of job 0 -/
example : ∃ x : XState (Yaclib.Strand.inlineExec true),
    XReach ⟨true, false, prog3 [.rd] [.wr] []⟩ (Yaclib.Strand.inlineExec true) x ∧
    x.m.pc 1 = .wcs ∧ x.job 1 = some 0 ∧ x.p 0 = .calling ∧ x.m.grants 1 = 1 := by
  let cfg : Cfg := ⟨true, false, prog3 [.rd] [.wr] []⟩
  have h0 : XReach cfg (Yaclib.Strand.inlineExec true) (xinit cfg (Yaclib.Strand.inlineExec true)) := .init
  have h1 := XReach.step h0 (xplain (.rdFadd 0) rfl rfl)
  have h2 := XReach.step h1 (xplain (.enter 0) rfl rfl)
  have h3 := XReach.step h2 (xplain (.twLoad 1 false) rfl rfl)
  have h4 := XReach.step h3 (xplain (.spinXchg 1 true) rfl rfl)
  have h5 := XReach.step h4 (xplain (.wrFadd 1) rfl rfl)
  have h6 := XReach.step h5 (xplain (.wrPost 1) rfl rfl)
  have h7 := XReach.step h6 (xplain (.exit 0) rfl rfl)
  have h8 := XReach.step h7 (xplain (.rdFsub 0) rfl rfl)
  have h9 := XReach.step h8 (xplain (.rwFsub 0) rfl rfl)
  have h10 := XReach.step h9 (XStep.grantSub (l := .runFirst 0 1) (n := 1) (lx := Yaclib.Strand.XEv.sub 0)
    (x' := Yaclib.Strand.upd Yaclib.Strand.protInit 0 .pending)
    (next_sound (l := .runFirst 0 1) rfl) rfl (by exact ⟨rfl, rfl⟩) rfl rfl)
  have h11 := XReach.step h10 (XStep.enterCall (n := 1) (j := 0) (lx := Yaclib.Strand.XEv.call 0)
    (x' := Yaclib.Strand.upd (Yaclib.Strand.upd Yaclib.Strand.protInit 0 .pending) 0 .calling)
    (next_sound (l := .enter 1) rfl) rfl (by exact ⟨rfl, rfl, rfl⟩) rfl)
  exact ⟨_, h11, rfl, rfl, rfl, rfl⟩

end OverExecutor

end Yaclib.Props.C15

/-! ### tie to the source (T2): the kernels this model was written from are unchanged.
`Extracted/Kernels.lean` is regenerated from /repo on every check run. -/
namespace Yaclib.Props.C15.Tie
open Yaclib

theorem tie_TryLockSharedAwait :
    Extracted.Kernels.SharedMutexImpl_TryLockSharedAwait = Skeletons.SharedMutexImpl_TryLockSharedAwait := rfl
theorem tie_TryLockAwait : Extracted.Kernels.SharedMutexImpl_TryLockAwait = Skeletons.SharedMutexImpl_TryLockAwait := rfl
theorem tie_AwaitLockShared :
    Extracted.Kernels.SharedMutexImpl_AwaitLockShared = Skeletons.SharedMutexImpl_AwaitLockShared := rfl
theorem tie_AwaitLock : Extracted.Kernels.SharedMutexImpl_AwaitLock = Skeletons.SharedMutexImpl_AwaitLock := rfl
theorem tie_TryLockShared : Extracted.Kernels.SharedMutexImpl_TryLockShared = Skeletons.SharedMutexImpl_TryLockShared := rfl
theorem tie_TryLock : Extracted.Kernels.SharedMutexImpl_TryLock = Skeletons.SharedMutexImpl_TryLock := rfl
theorem tie_UnlockHereShared :
    Extracted.Kernels.SharedMutexImpl_UnlockHereShared = Skeletons.SharedMutexImpl_UnlockHereShared := rfl
theorem tie_UnlockHere : Extracted.Kernels.SharedMutexImpl_UnlockHere = Skeletons.SharedMutexImpl_UnlockHere := rfl
theorem tie_Run : Extracted.Kernels.SharedMutexImpl_Run = Skeletons.SharedMutexImpl_Run := rfl
theorem tie_RunWriter : Extracted.Kernels.SharedMutexImpl_RunWriter = Skeletons.SharedMutexImpl_RunWriter := rfl
theorem tie_PassReaders : Extracted.Kernels.SharedMutexImpl_PassReaders = Skeletons.SharedMutexImpl_PassReaders := rfl
theorem tie_RunReaders : Extracted.Kernels.SharedMutexImpl_RunReaders = Skeletons.SharedMutexImpl_RunReaders := rfl
theorem tie_SlowUnlock : Extracted.Kernels.SharedMutexImpl_SlowUnlock = Skeletons.SharedMutexImpl_SlowUnlock := rfl
theorem tie_Spinlock_lock : Extracted.Kernels.Spinlock_lock = Skeletons.Spinlock_lock := rfl
theorem tie_Spinlock_unlock : Extracted.Kernels.Spinlock_unlock = Skeletons.Spinlock_unlock := rfl
theorem tie_SharedMutex_Lock : Extracted.Kernels.SharedMutex_Lock = Skeletons.SharedMutex_Lock := rfl
theorem tie_SharedMutex_LockShared : Extracted.Kernels.SharedMutex_LockShared = Skeletons.SharedMutex_LockShared := rfl
theorem tie_SharedMutex_TryGuard : Extracted.Kernels.SharedMutex_TryGuard = Skeletons.SharedMutex_TryGuard := rfl
theorem tie_SharedMutex_TryGuardShared :
    Extracted.Kernels.SharedMutex_TryGuardShared = Skeletons.SharedMutex_TryGuardShared := rfl
theorem tie_SharedMutex_Guard : Extracted.Kernels.SharedMutex_Guard = Skeletons.SharedMutex_Guard := rfl
theorem tie_SharedMutex_GuardShared : Extracted.Kernels.SharedMutex_GuardShared = Skeletons.SharedMutex_GuardShared := rfl
theorem tie_LockAwaiter_await_ready :
    Extracted.Kernels.LockAwaiter_await_ready = Skeletons.LockAwaiter_await_ready := rfl
theorem tie_LockAwaiter_await_suspend :
    Extracted.Kernels.LockAwaiter_await_suspend = Skeletons.LockAwaiter_await_suspend := rfl
theorem tie_GuardAwaiter_await_resume :
    Extracted.Kernels.GuardAwaiter_await_resume = Skeletons.GuardAwaiter_await_resume := rfl
theorem tie_Guard_dtor : Extracted.Kernels.Guard_dtor = Skeletons.Guard_dtor := rfl
theorem tie_Guard_UnlockHere : Extracted.Kernels.Guard_UnlockHere = Skeletons.Guard_UnlockHere := rfl
theorem tie_Guard_Lock : Extracted.Kernels.Guard_Lock = Skeletons.Guard_Lock := rfl
theorem tie_Guard_TryLock : Extracted.Kernels.Guard_TryLock = Skeletons.Guard_TryLock := rfl
theorem tie_Guard_Unlock : Extracted.Kernels.Guard_Unlock = Skeletons.Guard_Unlock := rfl
theorem tie_Guard_UnlockOn : Extracted.Kernels.Guard_UnlockOn = Skeletons.Guard_UnlockOn := rfl
theorem tie_Guard_TryLockImpl : Extracted.Kernels.Guard_TryLockImpl = Skeletons.Guard_TryLockImpl := rfl

end Yaclib.Props.C15.Tie
