/-
C14 — coroutine Mutex: mutual exclusion and no lost wake-up.

Property theorems about the model `Yaclib.CoMutex` (Model/CoMutex.lean) for **every** configuration
`cfg : Cfg` — both template options `batching`, `fifo` (all four combinations; the proofs are parametric in
them), any number of coroutines, any program of rounds `(acquire form, release form)` per coroutine — every
interleaving at atomic-operation granularity, every spurious weak-CAS failure and every stale pre-check load.
Helper lemmas and the inductive invariant are in Proofs/CoMutex*.lean.

"What one critical section wrote is visible in the next" is the memory-model half of the property: C04
(`comutex_sections_ordered`), not this file.
-/
import YaclibModel.Base.Run
import YaclibModel.Proofs.CoMutexProgress
import YaclibModel.Proofs.CoMutexExecInst
import YaclibModel.Proofs.CoMutexExecInst2
import YaclibModel.Extracted.Kernels
import YaclibModel.Model.Skeletons

namespace Yaclib.Props.C14
open Yaclib.CoMutex

variable {cfg : Cfg} {s : State}

/-- at most one coroutine is inside the critical section … -/
theorem mutual_exclusion (h : Reachable cfg s) {c d : Cid} (hc : s.pc c = .cs) (hd : s.pc d = .cs) : c = d := by
  have hi := inv_reachable h
  have h1 := (hi.holder c).mp (Or.inr hc)
  have h2 := (hi.holder d).mp (Or.inr hd)
  rw [h1] at h2
  cases h2; rfl

/-- … and more: the coroutines that own the mutex (already granted but not yet running, or inside the critical
    section) are at most one, and while a release operation is still in progress nobody owns it -/
theorem owner_unique (h : Reachable cfg s) {c d : Cid} (hc : s.pc c = .acq ∨ s.pc c = .cs)
    (hd : s.pc d = .acq ∨ s.pc d = .cs) : c = d ∧ s.own = .held c ∧ s.word ≠ .notLocked := by
  have hi := inv_reachable h
  have h1 := (hi.holder c).mp hc
  have h2 := (hi.holder d).mp hd
  refine ⟨?_, h1, ?_⟩
  · rw [h1] at h2; cases h2; rfl
  · intro hw; have := hi.own_free.mpr hw; rw [h1] at this; cases this

/-- `TryLock`/`TryGuard` (and the `await_ready` fast path of every lock form) succeed only when the mutex is free:
    the word says so, no coroutine owns it, no release is in progress and nothing waits in `_receiver` -/
theorem trylock_only_when_free (h : Reachable cfg s) {c : Cid} {s' : State} (hs : Step s (.tlCas c true) s') :
    s.word = .notLocked ∧ s.own = .free ∧ s.receiver = [] ∧ ∀ d, s.pc d ≠ .cs ∧ s.pc d ≠ .acq := by
  have hi := inv_reachable h
  cases hs with
  | tlCasOk _ hpc hw' =>
      have hw := hw'
      have hfree := hi.own_free.mpr hw
      refine ⟨hw, hfree, ?_, fun d => ⟨?_, ?_⟩⟩
      · cases hr : s.receiver with
        | nil => rfl
        | cons n rest => exact absurd hfree (hi.recv_own (by rw [hr]; simp))
      · intro hd; have := (hi.holder d).mp (Or.inr hd); rw [hfree] at this; cases this
      · intro hd; have := (hi.holder d).mp (Or.inl hd); rw [hfree] at this; cases this

/-- the same for the acquiring CAS of the slow path (`AwaitLock`) -/
theorem await_lock_acquires_only_when_free (h : Reachable cfg s) {c : Cid} {s' : State}
    (hs : Step s (.alCas c true) s') (hacq : s'.pc c = .acq) :
    s.word = .notLocked ∧ s.own = .free ∧ ∀ d, s.pc d ≠ .cs ∧ s.pc d ≠ .acq := by
  have hi := inv_reachable h
  cases hs with
  | alCasLock _ hpc hw =>
      have hfree := hi.own_free.mpr hw
      refine ⟨hw, hfree, fun d => ⟨?_, ?_⟩⟩
      · intro hd; have := (hi.holder d).mp (Or.inr hd); rw [hfree] at this; cases this
      · intro hd; have := (hi.holder d).mp (Or.inl hd); rw [hfree] at this; cases this
  | alCasPush _ hd l hpc hw hh => simp [doPush] at hacq

/-- conservation of waiters: every successful push is, as a multiset, either already granted or still in exactly
    one of the two lists (`arrived = granted ⊎ in sender ⊎ in receiver`) … -/
theorem conservation (h : Reachable cfg s) (c : Cid) :
    s.arrivals.count c = s.granted.count c + (senderList s).count c + s.receiver.count c :=
  (inv_reachable h).counts c

/-- … no coroutine is linked twice, and the linked coroutines are exactly the parked ones -/
theorem waiters_nodup (h : Reachable cfg s) : (senderList s ++ s.receiver).Nodup := by
  rw [List.nodup_iff_count]
  intro c
  have := (inv_reachable h).parked c
  simp only [senderList, List.count_append]
  split at this <;> omega

theorem parked_iff_linked (h : Reachable cfg s) (c : Cid) :
    s.pc c = .parked ↔ c ∈ senderList s ∨ c ∈ s.receiver := by
  have h1 := (inv_reachable h).parked c
  have e1 : c ∈ senderList s ↔ 0 < (senderList s).count c := List.count_pos_iff.symm
  have e2 : c ∈ s.receiver ↔ 0 < s.receiver.count c := List.count_pos_iff.symm
  rw [e1, e2]
  unfold senderList
  by_cases hp : s.pc c = .parked
  · rw [if_pos hp] at h1
    exact ⟨fun _ => by omega, fun _ => hp⟩
  · rw [if_neg hp] at h1
    exact ⟨fun h' => absurd h' hp, fun h' => by omega⟩

/-- every request that had to wait is granted exactly once: each push of `c` is matched by one grant of `c`, except
    the one for which `c` is still parked -/
theorem grant_once (h : Reachable cfg s) (c : Cid) :
    s.arrivals.count c = s.granted.count c + (if s.pc c = .parked then 1 else 0) := by
  have hi := inv_reachable h
  have h1 := hi.counts c
  have h2 := hi.parked c
  omega

/-- every round is one critical section (or one reported try-lock failure): nothing is granted twice, nothing skipped -/
theorem rounds_accounted (h : Reachable cfg s) (c : Cid) :
    s.enters c + s.fails c + (s.todo c).length =
      (cfg.prog c).length + (if s.pc c = .cs ∨ s.pc c = .unlocking then 1 else 0) :=
  (inv_reachable h).rounds c

/-- no lost wake-up (safety form): a state in which no step is enabled is a state in which the mutex is free, nobody
    is parked, no request is outstanding, and every coroutine has completed every round of its program — each
    lock request entered its critical section exactly once.  (Every holder releases and executors accept work are
    built into the model: a holder's program continues with its release form, a granted coroutine is runnable.) -/
theorem quiescent_none_parked (h : Reachable cfg s) (hq : ∀ l s', ¬ Step s l s') :
    s.word = .notLocked ∧ s.receiver = [] ∧ s.own = .free ∧
    ∀ c, s.pc c = .idle ∧ s.todo c = [] ∧ s.enters c + s.fails c = (cfg.prog c).length ∧
         s.arrivals.count c = s.granted.count c := by
  have hi := inv_reachable h
  obtain ⟨hf, hw, hr, hall⟩ := quiescent hi hq
  refine ⟨hw, hr, hf, fun c => ?_⟩
  obtain ⟨hp, ht⟩ := hall c
  have h1 := hi.rounds c
  have h2 := grant_once h c
  rw [hp, ht] at h1
  rw [hp] at h2
  simp at h1 h2
  exact ⟨hp, ht, h1, h2⟩

/-- waiting never occupies a thread: a parked coroutine executes no step at all (so it needs no worker, and a
    single-thread executor is enough) … -/
theorem waiting_holds_no_thread (h : Reachable cfg s) {c : Cid} (hp : s.pc c = .parked) {l : Label} {s' : State}
    (hs : Step s l s') : l.agent ≠ .co c := by
  have hi := inv_reachable h
  have hne : ∀ c' : Cid, s.pc c' ≠ .parked → Agent.co c' ≠ Agent.co c := by
    intro c' hc' he; cases he; exact hc' hp
  have hag : ∀ (c' : Cid) (p : RelPc) (k : RelK) (d : Bool), s.own = .rel c' p k d → agentOf c' d ≠ .co c := by
    intro c' p k d ho
    cases d with
    | true => simp [agentOf]
    | false =>
        have : s.pc c' = .unlocking := (hi.blocked c').mpr (by rw [ho]; rfl)
        simp only [agentOf, Bool.false_eq_true, ↓reduceIte]
        exact hne c' (by rw [this]; simp)
  cases hs with
  | tlLoad c' _ h' _ => exact hne c' (by rw [h']; simp)
  | tlCasOk c' h' _ => exact hne c' (by rw [h']; simp)
  | tlCasFail c' h' _ => exact hne c' (by rw [h']; simp)
  | tryFail c' h' => exact hne c' (by rw [h']; simp)
  | alLoad c' _ h' => exact hne c' (by rw [h']; simp)
  | alCasLock c' h' _ => exact hne c' (by rw [h']; simp)
  | alCasPush c' _ _ h' _ _ => exact hne c' (by rw [h']; simp)
  | alCasFail c' _ h' => exact hne c' (by rw [h']; simp)
  | enter c' h' => exact hne c' (by rw [h']; simp)
  | exit c' h' => exact hne c' (by rw [h']; simp)
  | resubmit c' k h' =>
      have : s.pc c' = .unlocking := (hi.blocked c').mpr (by rw [h']; rfl)
      exact hne c' (by rw [this]; simp)
  | ulLoad c' k d _ h' _ _ => exact hag c' _ k d h'
  | ulCasOk c' k d h' _ => exact hag c' _ k d h'
  | ulCasFail c' k d h' _ => exact hag c' _ k d h'
  | ulXchg c' k d _ h' _ _ => exact hag c' _ k d h'
  | grant c' p k d _ _ h' _ _ => exact hag c' p k d h'

/-- … and it stays parked until the step in which a releaser hands the mutex to it -/
theorem parked_until_granted (_h : Reachable cfg s) {c : Cid} (hp : s.pc c = .parked) {l : Label} {s' : State}
    (hs : Step s l s') : s'.pc c = .parked ∨ (∃ a inl, l = .grant a c inl) ∧ s'.pc c = .acq := by
  have hne : ∀ (c' : Cid) (v : Pc), s.pc c' ≠ .parked → upd s.pc c' v c = .parked := by
    intro c' v hc'
    have : c ≠ c' := by intro he; rw [he] at hp; exact hc' hp
    rw [upd_other _ _ _ _ this]; exact hp
  cases hs with
  | tlLoad c' sf h' _ =>
      cases sf
      · simp only [doTlLoad, failAcq, Bool.false_eq_true, ↓reduceIte]; exact Or.inl (hne c' _ (by rw [h']; simp))
      · simp only [doTlLoad, ↓reduceIte]; exact Or.inl (hne c' _ (by rw [h']; simp))
  | tlCasOk c' h' _ => exact Or.inl (hne c' _ (by rw [h']; simp))
  | tlCasFail c' h' _ => exact Or.inl (hne c' _ (by rw [h']; simp))
  | tryFail c' h' => exact Or.inl (hne c' _ (by rw [h']; simp))
  | alLoad c' _ h' => exact Or.inl (hne c' _ (by rw [h']; simp))
  | alCasLock c' h' _ => exact Or.inl (hne c' _ (by rw [h']; simp))
  | alCasPush c' _ _ h' _ _ => exact Or.inl (hne c' _ (by rw [h']; simp))
  | alCasFail c' _ h' => exact Or.inl (hne c' _ (by rw [h']; simp))
  | enter c' h' => exact Or.inl (hne c' _ (by rw [h']; simp))
  | exit c' h' => exact Or.inl (hne c' _ (by rw [h']; simp))
  | resubmit c' k h' =>
      by_cases he : c = c'
      · -- a detached release is about to start while `c'` itself is parked? impossible: it is `unlocking`
        subst he
        have hi := inv_reachable _h
        have : s.pc c = .unlocking := (hi.blocked c).mpr (by rw [h']; rfl)
        rw [hp] at this; cases this
      · left; simp only [doResubmit]; rw [upd_other _ _ _ _ he]; exact hp
  | ulLoad c' k d _ h' _ _ => exact Or.inl hp
  | ulCasOk c' k d h' _ =>
      cases d
      · have hi := inv_reachable _h
        have hu : s.pc c' = .unlocking := (hi.blocked c').mpr (by rw [h']; rfl)
        simp only [doRelease, finish, Bool.false_eq_true, ↓reduceIte]
        exact Or.inl (hne c' _ (by rw [hu]; simp))
      · simp only [doRelease, finish, ↓reduceIte]; exact Or.inl hp
  | ulCasFail c' k d h' _ => exact Or.inl hp
  | ulXchg c' k d _ h' _ _ => exact Or.inl hp
  | grant c' p k d n rest h' _ hr =>
      by_cases hn : c = n
      · subst hn
        right
        exact ⟨⟨_, _, rfl⟩, by simp [doGrant]⟩
      · left
        simp only [doGrant]
        rw [upd_other _ _ _ _ hn]
        cases d
        · have hi := inv_reachable _h
          have hu : s.pc c' = .unlocking := (hi.blocked c').mpr (by rw [h']; rfl)
          simp only [finish, Bool.false_eq_true, ↓reduceIte]
          exact hne c' _ (by rw [hu]; simp)
        · simp only [finish, ↓reduceIte]; exact hp

/-- FIFO = true: the waiters are served in the order of their successful pushes — what was granted so far, followed
    by what the holder has taken over, followed by the not yet taken-over stack (newest first, hence reversed) is
    exactly the arrival sequence … -/
theorem fifo_grant_order (h : Reachable cfg s) (hf : cfg.fifo = true) :
    s.granted ++ s.receiver ++ (senderList s).reverse = s.arrivals := by
  have hi := inv_reachable h
  exact hi.fifo (by rw [hi.hcfg]; exact hf)

/-- … in particular the grant sequence is always a prefix of the arrival sequence -/
theorem fifo_granted_prefix (h : Reachable cfg s) (hf : cfg.fifo = true) : s.granted <+: s.arrivals := by
  have := fifo_grant_order h hf
  exact ⟨s.receiver ++ (senderList s).reverse, by rw [← this, List.append_assoc]⟩

/-- everything the trace validator accepts is a behaviour the theorems speak about -/
theorem validator_sound {l : Label} {s' : State} (h : Reachable cfg s) (hn : next s l = some s') : Reachable cfg s' :=
  .step h (next_sound hn)

/-! ### non-vacuity: concrete workloads reach the interesting states -/

def prog2 (r0 r1 : List Round) : Cid → List Round := fun c => if c = 0 then r0 else if c = 1 then r1 else []

/-- the lost-wake-up window: coroutine 1 pushes itself exactly between the holder's "no waiters" pre-check and its
    release CAS; the CAS fails, the holder takes the stack over and hands the mutex to 1, which enters -/
example : ∃ s, Reachable ⟨true, false, prog2 [⟨.lock, .here⟩] [⟨.lock, .here⟩]⟩ s ∧ s.granted = [1] ∧ s.enters 1 = 1 ∧
    s.word = .notLocked ∧ s.pc 0 = .idle ∧ s.pc 1 = .idle := by
  let cfg : Cfg := ⟨true, false, prog2 [⟨.lock, .here⟩] [⟨.lock, .here⟩]⟩
  have h : Reachable cfg _ := runL_preserves (next := next) validator_sound .init
    [.tlLoad 0 true, .tlCas 0 true, .enter 0, .tlLoad 1 false, .alLoad 1 (.locked none), .exit 0,
     .ulLoad (.co 0) true,
     .alCas 1 true,  -- the push lands in the window
     .ulCas (.co 0) false, .ulXchg (.co 0), .grant (.co 0) 1 false, .enter 1, .exit 1, .ulLoad (.co 1) true,
     .ulCas (.co 1) true] rfl
  exact ⟨_, h, rfl, rfl, rfl, rfl, rfl⟩

/-- FIFO with three coroutines: 1 then 2 park, the stack is [2, 1], the holder's `UnlockOn` (detached: coroutine 0 is
    re-submitted first and finishes while its release is still running) reverses it and grants 1 first; 1's
    `co_await Unlock()` then resumes 2 in place (batching) -/
example : ∃ s, Reachable ⟨true, true, fun c => if c < 3 then [⟨.lock, if c = 0 then .unlockOn else .unlock⟩] else []⟩ s ∧
    s.arrivals = [1, 2] ∧ s.granted = [1, 2] ∧ s.pc 0 = .idle ∧ s.todo 0 = [] ∧ s.pc 2 = .cs := by
  let cfg : Cfg := ⟨true, true, fun c => if c < 3 then [⟨.lock, if c = 0 then .unlockOn else .unlock⟩] else []⟩
  have h : Reachable cfg _ := runL_preserves (next := next) validator_sound .init
    [.tlLoad 0 true, .tlCas 0 true, .enter 0, .tlLoad 1 false, .alLoad 1 (.locked none), .alCas 1 true,
     .tlLoad 2 true,  -- stale pre-check
     .tlCas 2 false,
     .alLoad 2 (.locked none),  -- stale initial load
     .alCas 2 false,  -- fails, reloads head = 1
     .alCas 2 false,  -- spurious failure
     .alCas 2 true, .exit 0, .resubmit 0, .ulLoad (.tail 0) false, .ulXchg (.tail 0), .grant (.tail 0) 1 false,
     .enter 1, .exit 1,
     .grant (.co 1) 2 true,  -- batching: resumed in place
     .enter 2] rfl
  exact ⟨_, h, rfl, rfl, rfl, rfl, rfl⟩

/-- a failed TryLock is reported and the round is skipped; a sticky guard that had to park releases through the
    detached path -/
example : ∃ s, Reachable ⟨false, false, prog2 [⟨.lock, .here⟩] [⟨.try_, .here⟩, ⟨.sticky, .stickyUnlock⟩]⟩ s ∧
    s.fails 1 = 1 ∧ s.sticky 1 = true ∧ s.own = .rel 1 .start .unlockOn true ∧ s.pc 1 = .idle := by
  let cfg : Cfg := ⟨false, false, prog2 [⟨.lock, .here⟩] [⟨.try_, .here⟩, ⟨.sticky, .stickyUnlock⟩]⟩
  have h : Reachable cfg _ := runL_preserves (next := next) validator_sound .init
    [.tlLoad 0 true, .tlCas 0 true, .enter 0, .tlLoad 1 false, .tryFail 1, .tlLoad 1 false, .alLoad 1 (.locked none),
     .alCas 1 true, .exit 0, .ulLoad (.co 0) false, .ulXchg (.co 0), .grant (.co 0) 1 false, .enter 1, .exit 1,
     .resubmit 1] rfl
  exact ⟨_, h, rfl, rfl, rfl, rfl⟩

/-! ### over a real executor (Proofs/CoMutexExec*.lean)

The premise "the executors involved keep accepting work" made precise: the hand-over to a parked coroutine is a
`Submit` at an executor `E` (an open transition system, Proofs/StrandTower.lean), its critical section is the body of
that job (`call … ret`).  Safety holds over EVERY `E`; no lost wake-up holds over every `E` that honours the IExecutor
contract (`ExecContract E`) and never Drops (a Dropped waiter would be completed with StopError while owning the mutex
and never release it: that is exactly what the premise excludes). -/
section OverExecutor
open Yaclib.Strand (Exec ExecContract)
variable {E : Exec} {x : XState E}

theorem mutual_exclusion_over (h : XReach cfg E x) {c d : Cid} (hc : x.m.pc c = .cs) (hd : x.m.pc d = .cs) : c = d :=
  mutual_exclusion (xmutex_projects h).1 hc hd

theorem grant_once_over (h : XReach cfg E x) (c : Cid) :
    x.m.arrivals.count c = x.m.granted.count c + (if x.m.pc c = .parked then 1 else 0) :=
  grant_once (xmutex_projects h).1 c

theorem fifo_grant_order_over (h : XReach cfg E x) (hf : cfg.fifo = true) :
    x.m.granted ++ x.m.receiver ++ (senderList x.m).reverse = x.m.arrivals :=
  fifo_grant_order (xmutex_projects h).1 hf

/-- the mutex is a well-behaved client of its executor: it submits a job once and returns only from a body that was entered -/
theorem executor_protocol_honoured (h : XReach cfg E x) : E.Run x.x x.p := (xmutex_projects h).2

/-- no lost wake-up over every contract-honouring executor that keeps accepting work -/
theorem quiescent_none_parked_over (hc : ExecContract E) (hnd : NeverDrops E) (h : XReach cfg E x)
    (hq : ∀ x', ¬ XStep E x x') :
    x.m.word = .notLocked ∧ x.m.receiver = [] ∧ x.m.own = .free ∧
    ∀ c, x.m.pc c = .idle ∧ x.m.todo c = [] ∧ x.m.enters c + x.m.fails c = (cfg.prog c).length ∧
         x.m.arrivals.count c = x.m.granted.count c :=
  quiescent_none_parked (xmutex_projects h).1 (xmutex_quiescent hc hnd h hq)

/-- … in particular over Inline, over a ManualExecutor that is drained, over the FairThreadPool (n ≥ 1 workers) and over
    any tower of Strands on a contract-honouring base; for the last two "never Drops" (nobody stops the executor) stays a
    hypothesis — the contract itself is discharged by `pool_contract` / `tower_satisfies_contract` -/
theorem over_inline {x : XState (Yaclib.Strand.inlineExec true)} (h : XReach cfg _ x) (hq : ∀ x', ¬ XStep _ x x') :
    QuiescentDone cfg x := comutex_over_inline h hq

theorem over_manual {x : XState (Yaclib.Strand.manualExec false)} (h : XReach cfg _ x) (hq : ∀ x', ¬ XStep _ x x') :
    QuiescentDone cfg x := comutex_over_manual h hq

theorem over_pool {n : Nat} (hn : 0 < n) (stop : Option Yaclib.Pool.StopKind) (spur : Bool)
    (hnd : NeverDrops (Yaclib.Pool.poolExec n stop spur)) {x : XState (Yaclib.Pool.poolExec n stop spur)}
    (h : XReach cfg _ x) (hq : ∀ x', ¬ XStep _ x x') : QuiescentDone cfg x := comutex_over_pool hn stop spur hnd h hq

/-- the FairThreadPool that nobody stops (`Pool.poolExecAlive`: the open pool model without a stopper; same reachable
    states and steps as `Pool.poolExec n none spur`, see Props/C08 `unstopped_pool_alive`): no hypothesis left.
    (`NeverDrops (Pool.poolExec n none spur)` itself is false, because `NeverDrops` also speaks about unreachable states:
    `pool_none_neverDrops_false`.) -/
theorem over_pool_unstopped {n : Nat} (hn : 0 < n) (spur : Bool) {x : XState (Yaclib.Pool.poolExecAlive n spur)}
    (h : XReach cfg _ x) (hq : ∀ x', ¬ XStep _ x x') : QuiescentDone cfg x := comutex_over_pool_unstopped hn spur h hq

theorem over_strand_tower {base : Exec} (hb : ExecContract base) (k : Nat) (hnd : NeverDrops (Yaclib.Strand.tower base k))
    {x : XState (Yaclib.Strand.tower base k)} (h : XReach cfg _ x) (hq : ∀ x', ¬ XStep _ x x') : QuiescentDone cfg x :=
  comutex_over_strand_tower hb k hnd h hq

theorem xplain {s : XState E} (l : Label) {m' : State} (h : next s.m l = some m') (hs : synced s.job l = false) :
    XStep E s { s with m := m' } := .plain (next_sound h) hs

/-- non-vacuity: over the Inline executor coroutine 1 parks, the holder's release Submits it (job 0), Inline Calls the
    job and coroutine 1 is inside its critical section, which is the body of that job -/
example : ∃ x : XState (Yaclib.Strand.inlineExec true),
    XReach ⟨false, false, prog2 [⟨.lock, .here⟩] [⟨.lock, .here⟩]⟩ (Yaclib.Strand.inlineExec true) x ∧
    x.m.pc 1 = .cs ∧ x.job 1 = some 0 ∧ x.p 0 = .calling ∧ x.m.granted = [1] := by
  let cfg : Cfg := ⟨false, false, prog2 [⟨.lock, .here⟩] [⟨.lock, .here⟩]⟩
  have h0 : XReach cfg (Yaclib.Strand.inlineExec true) (xinit cfg (Yaclib.Strand.inlineExec true)) := .init
  have h1 := XReach.step h0 (xplain (.tlLoad 0 true) rfl rfl)
  have h2 := XReach.step h1 (xplain (.tlCas 0 true) rfl rfl)
  have h3 := XReach.step h2 (xplain (.enter 0) rfl rfl)
  have h4 := XReach.step h3 (xplain (.tlLoad 1 false) rfl rfl)
  have h5 := XReach.step h4 (xplain (.alLoad 1 (.locked none)) rfl rfl)
  have h6 := XReach.step h5 (xplain (.alCas 1 true) rfl rfl)
  have h7 := XReach.step h6 (xplain (.exit 0) rfl rfl)
  have h8 := XReach.step h7 (xplain (.ulLoad (.co 0) false) rfl rfl)
  have h9 := XReach.step h8 (xplain (.ulXchg (.co 0)) rfl rfl)
  have h10 := XReach.step h9 (XStep.grantSub (a := .co 0) (n := 1) (lx := Yaclib.Strand.XEv.sub 0)
    (x' := Yaclib.Strand.upd Yaclib.Strand.protInit 0 .pending)
    (next_sound (l := .grant (.co 0) 1 false) rfl)
    (by exact ⟨rfl, rfl⟩) rfl rfl)
  have h11 := XReach.step h10 (XStep.enterCall (n := 1) (j := 0) (lx := Yaclib.Strand.XEv.call 0)
    (x' := Yaclib.Strand.upd (Yaclib.Strand.upd Yaclib.Strand.protInit 0 .pending) 0 .calling)
    (next_sound (l := .enter 1) rfl) rfl
    (by exact ⟨rfl, rfl, rfl⟩) rfl)
  exact ⟨_, h11, rfl, rfl, rfl, rfl⟩

end OverExecutor

end Yaclib.Props.C14

/-! ### tie to the source (T2): the kernels this model was written from are unchanged.
`Extracted/Kernels.lean` is regenerated from /repo on every check run. -/
namespace Yaclib.Props.C14.Tie
open Yaclib

theorem tie_TryLockAwait : Extracted.Kernels.MutexImpl_TryLockAwait = Skeletons.MutexImpl_TryLockAwait := rfl
theorem tie_AwaitLock : Extracted.Kernels.MutexImpl_AwaitLock = Skeletons.MutexImpl_AwaitLock := rfl
theorem tie_TryUnlockAwait : Extracted.Kernels.MutexImpl_TryUnlockAwait = Skeletons.MutexImpl_TryUnlockAwait := rfl
theorem tie_BatchingPossible : Extracted.Kernels.MutexImpl_BatchingPossible = Skeletons.MutexImpl_BatchingPossible := rfl
theorem tie_UnlockHereAwait : Extracted.Kernels.MutexImpl_UnlockHereAwait = Skeletons.MutexImpl_UnlockHereAwait := rfl
theorem tie_AwaitUnlock : Extracted.Kernels.MutexImpl_AwaitUnlock = Skeletons.MutexImpl_AwaitUnlock := rfl
theorem tie_AwaitUnlockOn : Extracted.Kernels.MutexImpl_AwaitUnlockOn = Skeletons.MutexImpl_AwaitUnlockOn := rfl
theorem tie_TryLock : Extracted.Kernels.MutexImpl_TryLock = Skeletons.MutexImpl_TryLock := rfl
theorem tie_UnlockHere : Extracted.Kernels.MutexImpl_UnlockHere = Skeletons.MutexImpl_UnlockHere := rfl
theorem tie_GetHead : Extracted.Kernels.MutexImpl_GetHead = Skeletons.MutexImpl_GetHead := rfl
theorem tie_UnlockAwaiter_await_ready :
    Extracted.Kernels.UnlockAwaiter_await_ready = Skeletons.UnlockAwaiter_await_ready := rfl
theorem tie_UnlockAwaiter_await_suspend :
    Extracted.Kernels.UnlockAwaiter_await_suspend = Skeletons.UnlockAwaiter_await_suspend := rfl
theorem tie_UnlockOnAwaiter_await_ready :
    Extracted.Kernels.UnlockOnAwaiter_await_ready = Skeletons.UnlockOnAwaiter_await_ready := rfl
theorem tie_UnlockOnAwaiter_await_suspend :
    Extracted.Kernels.UnlockOnAwaiter_await_suspend = Skeletons.UnlockOnAwaiter_await_suspend := rfl
theorem tie_LockAwaiter_await_ready :
    Extracted.Kernels.LockAwaiter_await_ready = Skeletons.LockAwaiter_await_ready := rfl
theorem tie_LockAwaiter_await_suspend :
    Extracted.Kernels.LockAwaiter_await_suspend = Skeletons.LockAwaiter_await_suspend := rfl
theorem tie_GuardAwaiter_await_resume :
    Extracted.Kernels.GuardAwaiter_await_resume = Skeletons.GuardAwaiter_await_resume := rfl
theorem tie_LockStickyAwaiter_await_ready :
    Extracted.Kernels.LockStickyAwaiter_await_ready = Skeletons.LockStickyAwaiter_await_ready := rfl
theorem tie_LockStickyAwaiter_await_suspend :
    Extracted.Kernels.LockStickyAwaiter_await_suspend = Skeletons.LockStickyAwaiter_await_suspend := rfl
theorem tie_UnlockStickyAwaiter_await_ready :
    Extracted.Kernels.UnlockStickyAwaiter_await_ready = Skeletons.UnlockStickyAwaiter_await_ready := rfl
theorem tie_UnlockStickyAwaiter_await_suspend :
    Extracted.Kernels.UnlockStickyAwaiter_await_suspend = Skeletons.UnlockStickyAwaiter_await_suspend := rfl
theorem tie_GuardStickyAwaiter_await_ready :
    Extracted.Kernels.GuardStickyAwaiter_await_ready = Skeletons.GuardStickyAwaiter_await_ready := rfl
theorem tie_GuardStickyAwaiter_await_suspend :
    Extracted.Kernels.GuardStickyAwaiter_await_suspend = Skeletons.GuardStickyAwaiter_await_suspend := rfl
theorem tie_GuardStickyAwaiter_await_resume :
    Extracted.Kernels.GuardStickyAwaiter_await_resume = Skeletons.GuardStickyAwaiter_await_resume := rfl
theorem tie_StickyGuard_Lock : Extracted.Kernels.StickyGuard_Lock = Skeletons.StickyGuard_Lock := rfl
theorem tie_StickyGuard_Unlock : Extracted.Kernels.StickyGuard_Unlock = Skeletons.StickyGuard_Unlock := rfl
theorem tie_Guard_dtor : Extracted.Kernels.Guard_dtor = Skeletons.Guard_dtor := rfl
theorem tie_Guard_Lock : Extracted.Kernels.Guard_Lock = Skeletons.Guard_Lock := rfl
theorem tie_Guard_TryLock : Extracted.Kernels.Guard_TryLock = Skeletons.Guard_TryLock := rfl
theorem tie_Guard_Unlock : Extracted.Kernels.Guard_Unlock = Skeletons.Guard_Unlock := rfl
theorem tie_Guard_UnlockOn : Extracted.Kernels.Guard_UnlockOn = Skeletons.Guard_UnlockOn := rfl
theorem tie_Guard_UnlockHere : Extracted.Kernels.Guard_UnlockHere = Skeletons.Guard_UnlockHere := rfl
theorem tie_Guard_TryLockImpl : Extracted.Kernels.Guard_TryLockImpl = Skeletons.Guard_TryLockImpl := rfl
theorem tie_Mutex_TryGuard : Extracted.Kernels.Mutex_TryGuard = Skeletons.Mutex_TryGuard := rfl
theorem tie_Mutex_Guard : Extracted.Kernels.Mutex_Guard = Skeletons.Mutex_Guard := rfl
theorem tie_Mutex_GuardSticky : Extracted.Kernels.Mutex_GuardSticky = Skeletons.Mutex_GuardSticky := rfl
theorem tie_Mutex_Lock : Extracted.Kernels.Mutex_Lock = Skeletons.Mutex_Lock := rfl
theorem tie_Mutex_Unlock : Extracted.Kernels.Mutex_Unlock = Skeletons.Mutex_Unlock := rfl
theorem tie_Mutex_UnlockOn : Extracted.Kernels.Mutex_UnlockOn = Skeletons.Mutex_UnlockOn := rfl
/-- the YACLIB_TRANSFER / YACLIB_RESUME / YACLIB_SUSPEND macro block of coro.hpp (symmetric and non-symmetric branch) that
    `AwaitUnlock` / `AwaitUnlockOn` expand: `grant … inl = true` is "resume the next holder, the unlocker stays suspended" -/
theorem tie_coro_transfer_macros :
    Extracted.Kernels.CoMutexSrc_coro_transfer_macros = Skeletons.CoMutexSrc_coro_transfer_macros := rfl

end Yaclib.Props.C14.Tie

/-! over towers of Strands "never Drops" is discharged from the base (Proofs/StrandTowerNoDrop.lean, CoMutexExecInst2.lean) -/
namespace Yaclib.Props.C14
open Yaclib.CoMutex

theorem over_strand_tower_inline {cfg : Cfg} (k : Nat) {x : XState (Yaclib.Strand.tower (Yaclib.Strand.inlineExec true) k)}
    (h : XReach cfg _ x) (hq : ∀ x', ¬ XStep _ x x') : QuiescentDone cfg x := comutex_over_strand_tower_inline k h hq
theorem over_strand_tower_manual {cfg : Cfg} (k : Nat) {x : XState (Yaclib.Strand.tower (Yaclib.Strand.manualExec false) k)}
    (h : XReach cfg _ x) (hq : ∀ x', ¬ XStep _ x x') : QuiescentDone cfg x := comutex_over_strand_tower_manual k h hq

end Yaclib.Props.C14
