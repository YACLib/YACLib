/-
C11 — Wait returns only when ready; a timed-out wait leaves the futures intact.

Property theorems about the model `Yaclib.Wait` (Model/Wait.lean), for **every** workload: any number n of futures (unique
or shared), any list of Wait / WaitFor / WaitUntil calls over index ranges (single-future OneCounter fast path, variadic
and iterator forms all end in `WaitRange`), any consuming operation per future afterwards, every interleaving of the n
producers with the waiter at atomic-operation granularity, every placement of the timeout, every admissible stale
pre-check load and spurious weak-CAS failure / wake-up.  The inductive invariant (the accounting of DESIGN.md §3 C11) and
its preservation proofs are in Proofs/Wait*.lean.
-/
import YaclibModel.Base.Run
import YaclibModel.Proofs.WaitProgress
import YaclibModel.Extracted.Kernels
import YaclibModel.Model.Skeletons

namespace Yaclib.Props.C11
open Yaclib.Wait

variable {w : Workload} {s s' : State} {l : Label}

/-- `Wait(fs...)` (untimed) returns only in a state in which every listed future is fulfilled (and it reports `true`) -/
theorem wait_returns_all_ready (h : Reachable w s) {b : Bool} (hs : Step s (.ret b) s') (hu : s.timed = false) :
    b = true ∧ ∀ i, s.lo ≤ i → i < s.hi → (s.fut i).word = .result := by
  have hi := inv_reachable h
  cases hs with
  | wRet _ hp =>
      cases b with
      | true => exact ⟨rfl, hi.ret_true (Or.inr (Or.inl hp))⟩
      | false => have := (hi.ret_false (Or.inr hp)).1; rw [hu] at this; cases this

/-- `WaitFor` / `WaitUntil` return `true` only in a state in which every listed future is fulfilled -/
theorem waitfor_true_all_ready (h : Reachable w s) (hs : Step s (.ret true) s') :
    ∀ i, s.lo ≤ i → i < s.hi → (s.fut i).word = .result := by
  cases hs with
  | wRet _ hp => exact (inv_reachable h).ret_true (Or.inr (Or.inl hp))

/-- … and `false` only in a timed call in which the timeout step has happened -/
theorem waitfor_false_after_deadline (h : Reachable w s) (hs : Step s (.ret false) s') :
    s.timed = true ∧ s.timedOutSeen = true := by
  cases hs with
  | wRet _ hp => exact (inv_reachable h).ret_false (Or.inr hp)

/-- the flag `timedOutSeen` is raised by the timeout step only -/
theorem timeout_flag_only_by_timeout (hs : Step s l s') (h' : s'.timedOutSeen = true) :
    s.timedOutSeen = true ∨ l = .timeout := by
  cases hs <;> first
    | exact Or.inr rfl
    | (left
       simp only [doBegin, advReg, toRet, doRegLoad, doRegCasOk, doSub1, doLock1, doWake, doLockT, advRst, finalWait, doRstLoad,
         doRstCasOk, doSub2, doUnlockRet, doRet, doFin, doAttLoad, doAttCasOk, doDeliverW, doXchg, doPSub, doPLock, doPUnlock,
         doPInvoke] at h'
       repeat' split at h'
       all_goals first | exact h' | cases h')

/-- … and every call starts with the flag down, with exactly the range and kind the client asked for -/
theorem call_starts_clean {lo hi : Nat} {t : Bool} (hs : Step s (.call lo hi t) s') :
    s'.timedOutSeen = false ∧ s'.lo = lo ∧ s'.hi = hi ∧ s'.timed = t := by
  cases hs with
  | wCall c rest hp hc =>
      simp only [doBegin, advReg, toRet]
      repeat' split
      all_goals exact ⟨rfl, rfl, rfl, rfl⟩

/-- when no event exists (before, between and after the wait calls) no word holds an event pointer and no producer
    holds one: nothing dangles -/
theorem words_restored (h : Reachable w s) (ha : s.alive = false) (i : Nat) :
    (s.fut i).word ≠ .ev ∧ (s.fut i).ppc ≠ .took ∧ (s.fut i).ppc ≠ .setting ∧ (s.fut i).ppc ≠ .locked :=
  (inv_reachable h).dead ha i

/-- in particular at the moment a call returns: every word of a future that has not been consumed yet is again `empty`
    (not fulfilled, the callback was won back) or `result` -/
theorem words_restored_at_return (h : Reachable w s) {b : Bool} (hs : Step s (.ret b) s') (i : Nat) (hc : s.fi ≤ i) :
    (s.fut i).word = .empty ∨ (s.fut i).word = .result := by
  have hi := inv_reachable h
  cases hs with
  | wRet _ hp =>
      have ha : s.alive = false := by
        cases ha : s.alive with
        | false => rfl
        | true => have := hi.alive_iff.mp ha; simp [hp, WPc.inCall] at this
      cases hw : (s.fut i).word with
      | empty => simp
      | result => simp
      | ev => exact absurd hw (hi.dead ha i).1
      | cont => exact absurd hw (hi.todo i hc).2.1

/-- no completion touches the waiter's event after the call returned -/
theorem event_untouched_after_return (h : Reachable w s) : s.uaf = false := (inv_reachable h).uaf

/-- the steps in which a producer touches the event (its decrement, `lock` / `unlock` inside `Set`) happen while the event exists -/
theorem touch_only_alive (h : Reachable w s) (hs : Step s l s')
    (hl : (∃ i old, l = .pSub i old) ∨ (∃ i, l = .lock (.p i)) ∨ (∃ i, l = .unlock (.p i))) : s.alive = true := by
  have hi := inv_reachable h
  cases hs with
  | pSub i hp => exact hi.alive_of_took hp
  | pLock i hp _ => exact hi.alive_of_setting hp
  | pUnlock i hp => exact hi.alive_of_locked hp
  | _ => rcases hl with ⟨_, _, hl⟩ | ⟨_, hl⟩ | ⟨_, hl⟩ <;> cases hl

/-- the counter never underflows: every `fetch_sub(a)` finds at least `a` -/
theorem counter_no_underflow (h : Reachable w s) :
    (∀ a old, Step s (.wSub a old) s' → (a : Int) ≤ old) ∧ (∀ i old, Step s (.pSub i old) s' → 1 ≤ old) := by
  have hi := inv_reachable h
  constructor
  · intro a old hs
    cases hs with
    | wSub1 hp =>
        have hal : s.alive = true := hi.alive_iff.mpr (by simp [hp, WPc.inCall])
        have hone := hi.sub1_multi hp
        have hs1 := hi.early_inv (by simp [hp, WPc.early])
        have hpre := hi.pre_to (by simp [hp, WPc.preTimeout])
        have hcnt := hi.c_cnt hal hone
        have hwc := hi.c_wc hal
        have hle := hi.wc_le hal
        simp only [hs1, hpre.2.1, Bool.false_eq_true, ↓reduceIte, Ninn, Ntaken, Ndecd, Nback] at hcnt hwc
        omega
    | wSub2 hp =>
        have hal : s.alive = true := hi.alive_iff.mpr (by simp [hp, WPc.inCall])
        have h2 := hi.sub2_inv hp
        have hres := hi.resetting (by simp [hp, WPc.resetting])
        have hs1 : s.sub1done = true := by
          rcases hi.later_inv (by simp [hp, WPc.postReg]) (by simp [hp]) with h | h
          · exact absurd h h2.1
          · exact h
        have hcnt := hi.c_cnt hal h2.1
        have hwc := hi.c_wc hal
        have hrc := hi.c_rc hal
        have hle := hi.wc_le hal
        simp only [hs1, hres.2.2, Bool.false_eq_true, ↓reduceIte, Ninn, Ntaken, Ndecd, Nback] at hcnt hwc hrc
        omega
  · intro i old hs
    cases hs with
    | pSub _ hp =>
        have hal := hi.alive_of_took hp
        have hg := hi.g_took hal i hp
        have hlt := hi.lt_hi hal (i := i) (by simp [hg])
        have hone : s.hi - s.lo ≠ 1 := fun ho => hi.one_taken hal ho i hg
        have hpos : 1 ≤ Ntaken s := cntG_pos hlt hg
        have hcnt := hi.c_cnt hal hone
        have hwc := hi.c_wc hal
        have hrc := hi.c_rc hal
        have hle := hi.wc_le hal
        simp only [Ninn, Ntaken, Ndecd, Nback] at *
        cases h1 : s.sub1done <;> cases h2 : s.sub2done <;>
          simp only [h1, h2, Bool.false_eq_true, ↓reduceIte] at hcnt
        · omega
        · have := (hi.sub2done_inv hal h2).1; rw [h1] at this; cases this
        · omega
        · omega

/-- `Set` is called at most once per event … -/
theorem set_at_most_once (h : Reachable w s) (ha : s.alive = true) : s.evSet ≤ 1 := by
  rw [(inv_reachable h).ev_set ha]; split <;> omega

/-- … by exactly the decrement that reached zero: a producer inside `Set` is the recorded setter, the counter is zero
    (multi-future events; the OneCounter event has no counter), and it is the only one -/
theorem set_by_zero_decrement (h : Reachable w s) (i : Nat)
    (hp : (s.fut i).ppc = .setting ∨ (s.fut i).ppc = .locked) :
    s.setter = some i ∧ (s.hi - s.lo ≠ 1 → s.counter = 0) ∧
    ∀ j, (s.fut j).ppc = .setting ∨ (s.fut j).ppc = .locked → j = i := by
  have hi := inv_reachable h
  have ha : s.alive = true := by rcases hp with hp | hp; exact hi.alive_of_setting hp; exact hi.alive_of_locked hp
  have hs := hi.set_pp ha i hp
  refine ⟨hs, fun ho => (hi.set_cnt ha ho (by simp [hs])).1, fun j hj => ?_⟩
  have := hi.set_pp ha j hj
  rw [hs] at this; cases this; rfl

/-- each future delivers its result at most once (continuation invocations and `Get` returns together) … -/
theorem later_delivery_once (h : Reachable w s) (i : Nat) : (s.fut i).ndel ≤ 1 := by
  have hi := inv_reachable h
  by_cases hlt : i < s.fi
  · by_cases hf : s.w.fin i = .none
    · have := (hi.del_none i hlt hf).1; omega
    · have := hi.del_some i hlt hf; omega
  · have := (hi.todo i (by omega)).1; omega

/-- … and what is delivered is the result that was set, read while the word is `result` -/
theorem delivery_is_the_result (h : Reachable w s) {t : Tid} {i : Nat} {r : Unique.Res}
    (hs : Step s (.invoke t i r) s' ∨ Step s (.got i r) s') : r = w.res i ∧ (s.fut i).word = .result := by
  have hi := inv_reachable h
  rcases hs with hs | hs
  · cases hs with
    | wInvoke _ _ hw => exact ⟨by rw [hi.hw], hw⟩
    | pInvoke _ hp => exact ⟨by rw [hi.hw], hi.fire_res i hp⟩
  · cases hs with
    | wGot _ _ hw => exact ⟨by rw [hi.hw], hw⟩

/-- no lost wake-up: if every producer of the range has finished, a sleeping waiter finds the flag set -/
theorem sleeping_waiter_is_woken (h : Reachable w s) (hwf : w.wf) (hq : ∀ l s', Step s l s' → Spur s l) (f : Bool)
    (hp : s.wpc = .asleep f) : s.ready = true := asleep_ready (inv_reachable h) hq hwf f hp

/-- quiescence (safety form of "nothing is lost, nobody waits forever"): in a state in which nothing but a spurious wake-up
    is possible, every producer and the waiter have finished and every consumed future has delivered exactly once -/
theorem quiescent_complete (h : Reachable w s) (hwf : w.wf) (hq : ∀ l s', Step s l s' → Spur s l) : Done s :=
  quiescent_done (inv_reachable h) hwf hq

/-- everything the trace validator accepts is a behaviour the theorems speak about -/
theorem validator_sound (h : Reachable w s) (hn : next s l = some s') : Reachable w s' := .step h (next_sound hn)

/-! ### non-vacuity: concrete workloads reach the interesting states -/

def wl2 : Workload :=
  { n := 2, res := fun i => .val (i + 1), shared := fun _ => false, calls := [⟨0, 2, true⟩], fin := fun i => if i = 0 then .get else .attach }

/-- WaitFor over two futures, the timeout falls between the completions: producer 0 has taken the event pointer but not
    yet decremented when the waiter resets; the waiter wins future 1 back, must keep waiting for producer 0
    (`SubEqual(reset_count)` does not reach zero), returns false; afterwards `Get` on future 0 and a continuation on
    future 1 each deliver exactly once -/
example : ∃ s, Reachable wl2 s ∧ Done s ∧ (s.fut 0).ndel = 1 ∧ (s.fut 1).ndel = 1 ∧ s.uaf = false := by
  have h : Reachable wl2 _ := runL_preserves (next := next) validator_sound .init
    [.call 0 2 true, .wLoad 0 .empty, .wCas 0 true, .wLoad 1 .empty, .wCas 1 true, .wSub 1 3, .lock .w, .unlock .w,
     .pXchg 0 .ev,  -- producer 0 holds the event pointer
     .timeout, .lock .w,
     .wLoad 0 .ev,  -- stale relaxed load in Reset
     .wCas 0 false, .wLoad 1 .ev, .wCas 1 true,
     .wSub 1 2,  -- 2 ≠ 1: somebody still holds the pointer
     .unlock .w,  -- the untimed wait
     .pSub 0 1,  -- reaches zero: producer 0 must Set
     .lock (.p 0), .unlock (.p 0), .lock .w, .unlock .w, .ret false, .fin 0 .get, .wLoad 0 .result, .got 0 (.val 1),
     .fin 1 .attach, .wLoad 1 .empty, .wCas 1 true, .pXchg 1 .cont, .invoke (.p 1) 1 (.val 2)] rfl
  refine ⟨_, h, ⟨rfl, rfl, rfl, ?_, ?_⟩, rfl, rfl, rfl⟩
  · intro i hi
    have hi2 : i < 2 := hi
    have : i = 0 ∨ i = 1 := by omega
    rcases this with rfl | rfl <;> rfl
  · intro i hi _
    have hi2 : i < 2 := hi
    have : i = 0 ∨ i = 1 := by omega
    rcases this with rfl | rfl <;> rfl

/-- single-future fast path (OneCounter): `WaitFor` times out, wins the word back, a later `Wait` registers again -/
example : ∃ s, Reachable ⟨1, fun _ => .err, fun _ => false, [⟨0, 1, true⟩, ⟨0, 1, false⟩], fun _ => .none⟩ s ∧
    s.wpc = .retn true ∧ (s.fut 0).word = .result := by
  let w : Workload := ⟨1, fun _ => .err, fun _ => false, [⟨0, 1, true⟩, ⟨0, 1, false⟩], fun _ => .none⟩
  have h : Reachable w _ := runL_preserves (next := next) validator_sound .init
    [.call 0 1 true, .wLoad 0 .empty, .wCas 0 true, .lock .w, .unlock .w, .timeout, .lock .w, .wLoad 0 .ev,
     .wCas 0 true, .unlock .w, .ret false, .call 0 1 false, .wLoad 0 .empty, .wCas 0 true, .pXchg 0 .ev, .lock (.p 0),
     .unlock (.p 0), .lock .w, .unlock .w] rfl
  exact ⟨_, h, rfl, rfl⟩

end Yaclib.Props.C11

/-! ### tie to the source (T2): the kernels this model was written from are unchanged.
`Extracted/Kernels.lean` is regenerated from /repo on every check run. -/
namespace Yaclib.Props.C11.Tie
open Yaclib

theorem tie_WaitRange : Extracted.Kernels.WaitRange = Skeletons.WaitRange := rfl
theorem tie_WaitCore : Extracted.Kernels.WaitCore = Skeletons.WaitCore := rfl
theorem tie_WaitIterator : Extracted.Kernels.WaitIterator = Skeletons.WaitIterator := rfl
theorem tie_Wait : Extracted.Kernels.Wait_variadic_iterator = Skeletons.Wait_variadic_iterator := rfl
theorem tie_WaitFor : Extracted.Kernels.WaitFor_variadic_iterator = Skeletons.WaitFor_variadic_iterator := rfl
theorem tie_WaitUntil : Extracted.Kernels.WaitUntil_variadic_iterator = Skeletons.WaitUntil_variadic_iterator := rfl
theorem tie_SetCallbackImpl : Extracted.Kernels.BaseCore_SetCallbackImpl = Skeletons.BaseCore_SetCallbackImpl := rfl
theorem tie_ResetImpl : Extracted.Kernels.BaseCore_ResetImpl = Skeletons.BaseCore_ResetImpl := rfl
theorem tie_SetResultImpl : Extracted.Kernels.BaseCore_SetResultImpl = Skeletons.BaseCore_SetResultImpl := rfl
theorem tie_CallCallback_Impl : Extracted.Kernels.CallCallback_Impl = Skeletons.CallCallback_Impl := rfl
theorem tie_AtomicCounter_Sub : Extracted.Kernels.AtomicCounter_Sub = Skeletons.AtomicCounter_Sub := rfl
theorem tie_AtomicCounter_SubEqual : Extracted.Kernels.AtomicCounter_SubEqual = Skeletons.AtomicCounter_SubEqual := rfl
theorem tie_OneCounter_Sub : Extracted.Kernels.OneCounter_Sub = Skeletons.OneCounter_Sub := rfl
theorem tie_OneCounter_SubEqual : Extracted.Kernels.OneCounter_SubEqual = Skeletons.OneCounter_SubEqual := rfl
theorem tie_SetDeleter_Delete : Extracted.Kernels.SetDeleter_Delete = Skeletons.SetDeleter_Delete := rfl
theorem tie_MutexEvent_Make : Extracted.Kernels.MutexEvent_Make = Skeletons.MutexEvent_Make := rfl
theorem tie_MutexEvent_Wait : Extracted.Kernels.MutexEvent_Wait = Skeletons.MutexEvent_Wait := rfl
theorem tie_MutexEvent_WaitTimed : Extracted.Kernels.MutexEvent_WaitTimed = Skeletons.MutexEvent_WaitTimed := rfl
theorem tie_MutexEvent_Set : Extracted.Kernels.MutexEvent_Set = Skeletons.MutexEvent_Set := rfl
theorem tie_FutureBase_GetMove : Extracted.Kernels.FutureBase_GetMove = Skeletons.FutureBase_GetMove := rfl
theorem tie_detail_SetCallback : Extracted.Kernels.detail_SetCallback = Skeletons.detail_SetCallback := rfl

end Yaclib.Props.C11.Tie
