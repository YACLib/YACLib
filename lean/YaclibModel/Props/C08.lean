/-
C08 — FairThreadPool: accepted jobs all run, rejected ones drop, Wait means done.

Property theorems about the model `Yaclib.Pool` (Model/Pool.lean), for **every** workload (any number of
workers, any number of submitters with any number of jobs each, a stopper calling Stop / SoftStop / HardStop or
nobody), every interleaving at lock/unlock/notify granularity, every choice of the worker a `notify_one` wakes
and every spurious wake-up.  Helper lemmas and the inductive invariants are in Proofs/Pool*.lean; the bit layout
of the counter word comes from Extracted/PoolConsts.lean (regenerated from the source on every run).
-/
import YaclibModel.Base.Run
import YaclibModel.Proofs.PoolBlocked
import YaclibModel.Proofs.PoolExecContract
import YaclibModel.Proofs.PoolExecNoDrop
import YaclibModel.Proofs.StrandTowerN
import YaclibModel.Extracted.Kernels
import YaclibModel.Model.Skeletons

namespace Yaclib.Props.C08
open Yaclib.Pool Yaclib.Extracted.PoolConsts

variable {w : Workload} {s : State}

/-! ### the counter word -/

/-- `_jobs_count >> 2` counts the queued jobs plus the jobs a worker has popped and not yet subtracted
    (plus, after HardStop, the jobs it took away: HardStop never subtracts them) -/
theorem counter_layout (h : Reachable w s) :
    s.cnt >>> 2 = s.queue.length + s.workers.countP WPc.running + s.stolen.length := by
  have := (invA_reachable h).cnt_jobs
  omega

theorem counter_layout_no_hardstop (h : Reachable w s) (hk : w.stop ≠ some .hard) :
    s.cnt >>> 2 = s.queue.length + s.workers.countP WPc.running := by
  have ha := invA_reachable h
  have hst : s.stolen = [] := by
    cases hs : s.stolen with
    | nil => rfl
    | cons a as =>
        have := (ha.stolen_kind (by rw [hs]; simp)).1
        rw [ha.kind_eq] at this
        exact absurd this hk
  have := counter_layout h
  rw [hst] at this
  simpa using this

/-- `_jobs_count -= 4` never underflows: whenever a worker is about to execute it the counter is at least 4 -/
theorem counter_no_underflow (h : Reachable w s) {i : Nat} (hw : s.workers[i]? = some (.held true)) :
    4 ≤ s.cnt ∧ loopSub s.cnt + 4 = s.cnt := by
  have ha := invA_reachable h
  have hp := countP_pos_get WPc.running hw rfl
  have := ha.cnt_jobs
  rw [Pool.Bits.loopSub_eq]
  omega

/-- the mutex: at most one thread is inside a critical section, and exactly when `_m` is locked -/
theorem mutual_exclusion (h : Reachable w s) :
    s.workers.countP WPc.isHeld + s.subs.countP Sub.isHeld + (if s.xpc = .held then 1 else 0) =
      (if s.locked = true then 1 else 0) := (invA_reachable h).lock_cnt

/-! ### accepted xor dropped at submission -/

/-- every job handed to `Submit` is — once `Submit` has made its decision and acted on it — either accepted
    (pushed) or Dropped by `Submit`, never both, never twice -/
theorem accepted_xor_dropped (h : Reachable w s) (j : JobId) :
    s.accepted.count j + s.rejected.count j + inFlight s j = (if j ∈ s.submitted then 1 else 0) := by
  have hb := invB_reachable h
  have hf := hb.sub_flight j
  have hle := count_le_one_of_nodup hb.sub_nodup j
  by_cases hm : j ∈ s.submitted
  · have := List.count_pos_iff.mpr hm
    simp only [hm, ↓reduceIte]; omega
  · have := List.count_eq_zero.mpr hm
    simp only [hm, ↓reduceIte]; omega

theorem accepted_nodup (h : Reachable w s) : s.accepted.Nodup := by
  apply List.nodup_iff_count.mpr
  intro j
  have := accepted_xor_dropped h j
  split at this <;> omega

theorem rejected_nodup (h : Reachable w s) : s.rejected.Nodup := by
  apply List.nodup_iff_count.mpr
  intro j
  have := accepted_xor_dropped h j
  split at this <;> omega

theorem accepted_not_rejected (h : Reachable w s) {j : JobId} (ha : j ∈ s.accepted) : j ∉ s.rejected := by
  intro hr
  have := accepted_xor_dropped h j
  have h1 := List.count_pos_iff.mpr ha
  have h2 := List.count_pos_iff.mpr hr
  split at this <;> omega

/-- `Submit` Drops only if the pool was already stopped (and the stop bit never goes away) -/
theorem rejected_only_if_stopped (h : Reachable w s) (hr : s.rejected ≠ []) : wasStop s.cnt = true := by
  have := (invA_reachable h).rejected_was hr
  rw [Pool.Bits.wasStop_eq]; simp [this]

/-- … and once the stop bit is set nothing is accepted any more and the bit stays -/
theorem no_accept_after_stop (h : Reachable w s) {l : Label} {s' : State} (hs : Step s l s')
    (hw : wasStop s.cnt = true) : s'.accepted = s.accepted ∧ wasStop s'.cnt = true := by
  have ha := invA_reachable h
  have hcj := ha.cnt_jobs
  cases hs with
  | sAccept i sb hi hpc hw' => rw [hw] at hw'; cases hw'
  | wPop i b j rest hi hq =>
      have hR := countP_pos_get WPc.running hi
      refine ⟨rfl, ?_⟩
      cases b <;> simp only [doPop] <;> bits_simp
      · exact hw
      · have := hR rfl; omega
  | wStop i b hi hq hc => refine ⟨rfl, ?_⟩; simp only [doWStop]; bits_simp; omega
  | wExit i b hi hq hc hw' => exact ⟨rfl, hw'⟩
  | wWait i b hi hq hc hw' =>
      have hR := countP_pos_get WPc.running hi
      refine ⟨rfl, ?_⟩
      cases b <;> simp only [doWWait] <;> bits_simp
      · exact hw
      · have := hR rfl; omega
  | xStop hx hk => refine ⟨rfl, ?_⟩; simp only [doXStop]; bits_simp; omega
  | xSoftNow hx hk hn => refine ⟨rfl, ?_⟩; simp only [doXStop]; bits_simp; omega
  | xSoftWant hx hk hn => refine ⟨rfl, ?_⟩; simp only [doXSoftWant]; bits_simp; omega
  | xHard hx hk => refine ⟨rfl, ?_⟩; simp only [doXHard]; bits_simp; omega
  | _ => exact ⟨rfl, hw⟩

/-! ### accepted ⇒ Called at most once, or Dropped at most once by HardStop -/

/-- a job is Called at most once and Dropped by HardStop at most once, never both, and only if it was accepted;
    a job rejected by `Submit` is never Called -/
theorem accepted_called_once_or_hardstopped (h : Reachable w s) (j : JobId) :
    s.started.count j + s.hardDropped.count j ≤ s.accepted.count j ∧ s.accepted.count j ≤ 1 := by
  have hb := invB_reachable h
  have h1 := hb.call_count j
  have h2 := hardDropped_le_stolen h j
  have h3 : s.accepted.count j = s.popped.count j + s.queue.count j + s.stolen.count j := by
    rw [hb.acc_split, List.count_append, List.count_append]
  have h4 := count_le_one_of_nodup (accepted_nodup h) j
  omega

theorem called_only_if_accepted (h : Reachable w s) {j : JobId} (hj : j ∈ s.started) : j ∈ s.accepted ∧ j ∉ s.rejected := by
  have := (accepted_called_once_or_hardstopped h j).1
  have h1 := List.count_pos_iff.mpr hj
  have ha : j ∈ s.accepted := List.count_pos_iff.mp (by omega)
  exact ⟨ha, accepted_not_rejected h ha⟩

/-- only HardStop takes jobs away: under Stop / SoftStop / no stop no accepted job is ever Dropped -/
theorem only_hardstop_drops_accepted (h : Reachable w s) (hk : w.stop ≠ some .hard) : s.hardDropped = [] ∧ s.stolen = [] := by
  have ha := invA_reachable h
  have hst : s.stolen = [] := by
    cases hs : s.stolen with
    | nil => rfl
    | cons a as =>
        have := (ha.stolen_kind (by rw [hs]; simp)).1
        rw [ha.kind_eq] at this
        exact absurd this hk
  refine ⟨?_, hst⟩
  apply List.eq_nil_iff_forall_not_mem.mpr
  intro j hj
  have := hardDropped_le_stolen h j
  have h1 := List.count_pos_iff.mpr hj
  rw [hst] at this
  simp at this
  omega

/-! ### SoftStop -/

/-- under SoftStop the stop bit is set only in a state with no queued and no running job -/
theorem softstop_only_when_idle (h : Reachable w s) {l : Label} {s' : State} (hs : Step s l s') (hk : w.stop = some .soft)
    (h0 : wasStop s.cnt = false) (h1 : wasStop s'.cnt = true) :
    s'.queue = [] ∧ s'.workers.countP WPc.running = 0 := by
  have ha := invA_reachable h
  have ha' := invA_step ha hs
  have hkind : s.kind = some .soft := by rw [ha.kind_eq]; exact hk
  have key : s'.cnt / 4 = 0 := by
    cases hs with
    | sAccept i sb hi hpc hw => simp only [doAccept] at *; bits_simp; omega
    | wPop i b j rest hi hq => cases b <;> simp only [doPop] at * <;> bits_simp <;> omega
    | wStop i b hi hq hc => cases b <;> simp only [doWStop] at * <;> bits_simp <;> omega
    | wExit i b hi hq hc hw => cases b <;> simp only [doWExit] at * <;> bits_simp <;> omega
    | wWait i b hi hq hc hw => cases b <;> simp only [doWWait] at * <;> bits_simp <;> omega
    | xStop hx hk' => rw [hkind] at hk'; cases hk'
    | xSoftNow hx hk' hn => simp only [doXStop] at *; bits_simp; omega
    | xSoftWant hx hk' hn => simp only [doXSoftWant] at *; bits_simp; omega
    | xHard hx hk' => rw [hkind] at hk'; cases hk'
    | _ => (try simp only [doSubmit, doSLock, doReject, doSDrop, doNotifyNone, doNotifyOne, doWLock, doCall, doWNotifyAll,
              doSpurious, doXLock, doXNotifyAll, doXDrop] at h1); rw [h0] at h1; cases h1
  have := ha'.cnt_jobs
  rw [key] at this
  refine ⟨List.eq_nil_of_length_eq_zero (by omega), by omega⟩

/-! ### after Wait -/

/-- after Wait returned every worker has left `Loop`, no job is running, no Call can happen … -/
theorem after_wait_nothing_runs (h : Reachable w s) (hr : s.waitReturned = true) :
    (∀ pc ∈ s.workers, pc = .exited) ∧ s.workers.countP WPc.running = 0 ∧ (∀ i j s', ¬ Step s (.call i j) s') := by
  have hall := (invA_reachable h).wait_exited hr
  refine ⟨hall, ?_, ?_⟩
  · apply List.countP_eq_zero.mpr
    intro pc hm; rw [hall pc hm]; simp [WPc.running]
  · intro i j s' hs
    cases hs with
    | wCall _ _ hi => have := hall _ (List.mem_of_getElem? hi); cases this

/-- … not in any later state either: the list of Calls is frozen -/
theorem no_call_after_wait (h : Reachable w s) (hr : s.waitReturned = true) {t : State} (hl : Later s t) :
    t.waitReturned = true ∧ t.started = s.started := by
  induction hl with
  | refl => exact ⟨hr, rfl⟩
  | step hl' hs ih =>
      have hrt := later_reachable h hl'
      refine ⟨wait_stable hs ih.1, ?_⟩
      rw [← ih.2]
      have hno := (after_wait_nothing_runs hrt ih.1).2.2
      cases hs with
      | wCall i j hi => exact absurd (Step.wCall _ i j hi) (hno i j _)
      | _ => rfl

/-- with at least one worker: after Wait returned the pool is stopped, the queue is empty, and every later
    `Submit` Drops its job (nothing is accepted any more) -/
theorem after_wait_submit_drops (h : Reachable w s) (hr : s.waitReturned = true) (hn : 0 < w.workers) :
    wasStop s.cnt = true ∧ s.queue = [] ∧
    ∀ {t : State}, Later s t → t.accepted = s.accepted ∧ t.queue = [] ∧ wasStop t.cnt = true := by
  have ha := invA_reachable h
  have hall := ha.wait_exited hr
  obtain ⟨pc, hm⟩ : ∃ pc, pc ∈ s.workers := by
    cases hws : s.workers with
    | nil => have := ha.wlen; rw [hws] at this; simp at this; omega
    | cons a as => exact ⟨a, by simp⟩
  have hex := hall pc hm
  subst hex
  have hw : wasStop s.cnt = true := by rw [Pool.Bits.wasStop_eq]; simp [ha.gone_was _ hm rfl]
  refine ⟨hw, ha.gone_queue _ hm rfl, ?_⟩
  intro t hl
  induction hl with
  | refl => exact ⟨rfl, ha.gone_queue _ hm rfl, hw⟩
  | @step t0 l0 t1 hl' hs ih =>
      have hrt := later_reachable h hl'
      have := no_accept_after_stop hrt hs ih.2.2
      refine ⟨by rw [this.1, ih.1], ?_, this.2⟩
      have hat := invA_step (invA_reachable hrt) hs
      have hrt' := wait_stable hs (no_call_after_wait h hr hl').1
      have hall' := hat.wait_exited hrt'
      have hlen : 0 < t1.workers.length := by rw [hat.wlen]; exact hn
      obtain ⟨pc', hm'⟩ := List.exists_mem_of_length_pos hlen
      have := hall' pc' hm'
      subst this
      exact hat.gone_queue _ hm' rfl

/-! ### single worker: FIFO -/

/-- with a single worker jobs start in acceptance (= push) order: the list of Calls is a prefix of the list of
    accepted jobs -/
theorem single_worker_fifo (h : Reachable w s) (h1 : w.workers = 1) : s.started <+: s.accepted := by
  have ha := invA_reachable h
  have hb := invB_reachable h
  have hf := invF_reachable h
  have hlen : s.workers.length = 1 := by rw [ha.wlen]; exact h1
  match hws : s.workers, hlen with
  | [pc], _ =>
      have := hf.fifo pc hws
      refine ⟨pendOf pc ++ s.queue ++ s.stolen, ?_⟩
      rw [hb.acc_split, ← this]
      simp [List.append_assoc]

/-! ### quiescence: nothing is lost, no wake-up is lost -/

/-- a parked worker is never forgotten: once the stop bit is set and the accompanying `notify_all` has been issued
    nobody is parked; and while the queue is not empty some worker is on its way to it or a notification is
    still to come -/
theorem parked_is_watched (h : Reachable w s) :
    (wasStop s.cnt = true → s.xpc ≠ .notifyAll → WPc.stopping ∉ s.workers → WPc.parked ∉ s.workers) ∧
    (s.queue ≠ [] → 0 < w.workers →
      0 < s.workers.countP WPc.active + s.subs.countP Sub.isNotifying + (if s.xpc = .notifyAll then 1 else 0)) := by
  have hc := invC_reachable h
  refine ⟨?_, hc.queue_watch⟩
  intro hw
  rw [Pool.Bits.wasStop_eq] at hw
  exact hc.no_parked_after_stop (by simpa using hw)

/-- **no lost wake-up / nothing lost** (safety form).  In a state in which nothing can happen any more (except a
    spurious wake-up), with at least one worker:  the mutex is free, every submitter has submitted all its jobs,
    the stopper has finished, the queue is empty, no job is running, and
      * if nobody stops the pool, all workers sleep and the pool was never stopped;
      * otherwise the pool is stopped, every worker has left and `Wait` has returned. -/
theorem no_lost_wakeup (h : Reachable w s) (hn : 0 < w.workers) (hq : Quiescent s) : Rest w s :=
  rest_of_quiescent (invA_reachable h) (invB_reachable h) (invC_reachable h) hn hq

/-- … every job of the workload has been submitted and was accepted xor rejected exactly once … -/
theorem quiescent_all_submitted (h : Reachable w s) (hn : 0 < w.workers) (hq : Quiescent s) {i n k : Nat}
    (hi : w.subs[i]? = some n) (hk : k < n) :
    (⟨i, k⟩ : JobId) ∈ s.submitted ∧ s.accepted.count ⟨i, k⟩ + s.rejected.count ⟨i, k⟩ = 1 := by
  have hb := invB_reachable h
  have hr := no_lost_wakeup h hn hq
  have hlt : i < s.subs.length := by
    rw [hb.slen]; exact (List.getElem?_eq_some_iff.mp hi).1
  have hget : s.subs[i]? = some s.subs[i] := List.getElem?_eq_getElem hlt
  have hwf := hb.sub_wf i _ hget
  have hdone := hr.subs_done _ (List.getElem_mem hlt)
  have htot : s.subs[i].total = n := by
    have := hwf.1; rw [hi] at this; cases this; rfl
  have hmem : (⟨i, k⟩ : JobId) ∈ s.submitted := (hb.sub_all i _ hget).1 k (by omega)
  refine ⟨hmem, ?_⟩
  have := accepted_xor_dropped h ⟨i, k⟩
  have hfl : inFlight s ⟨i, k⟩ = 0 := by
    simp only [inFlight, hget]
    simp [hdone.1]
  simp only [hmem, ↓reduceIte, hfl] at this
  omega

/-- … and every accepted job has been Called exactly once or Dropped exactly once by HardStop -/
theorem quiescent_all_finished (h : Reachable w s) (hn : 0 < w.workers) (hq : Quiescent s) {j : JobId}
    (hj : j ∈ s.accepted) : s.started.count j + s.hardDropped.count j = 1 := by
  have hb := invB_reachable h
  have hr := no_lost_wakeup h hn hq
  have h1 := hb.call_count j
  have hnc : s.workers.countP (WPc.isCalling j) = 0 := by
    apply List.countP_eq_zero.mpr
    intro pc hm
    have hz := List.countP_eq_zero.mp hr.none_running pc hm
    cases pc <;> simp_all [WPc.isCalling, WPc.running]
  have h3 : s.accepted.count j = s.popped.count j + s.queue.count j + s.stolen.count j := by
    rw [hb.acc_split, List.count_append, List.count_append]
  have h4 := count_le_one_of_nodup (accepted_nodup h) j
  have h5 := List.count_pos_iff.mpr hj
  rw [hr.queue_empty] at h3
  rw [hb.hard_done hr.stopper_done]
  simp at h3
  omega

/-- Stop (and SoftStop): everything that was accepted — necessarily before the stop bit was set,
    `no_accept_after_stop` — is Called exactly once; nothing accepted is ever Dropped -/
theorem stop_runs_accepted (h : Reachable w s) (hn : 0 < w.workers) (hk : w.stop ≠ some .hard) (hq : Quiescent s)
    {j : JobId} (hj : j ∈ s.accepted) : s.started.count j = 1 ∧ s.hardDropped = [] ∧ j ∉ s.rejected := by
  have := quiescent_all_finished h hn hq hj
  have hd := (only_hardstop_drops_accepted h hk).1
  rw [hd] at this
  simp at this
  exact ⟨this, hd, accepted_not_rejected h hj⟩

/-- with a single worker, when everything has come to rest, the Calls followed by HardStop's Drops are exactly the
    accepted jobs in acceptance order -/
theorem single_worker_fifo_complete (h : Reachable w s) (h1 : w.workers = 1) (hq : Quiescent s) :
    s.started ++ s.hardDropped = s.accepted := by
  have ha := invA_reachable h
  have hb := invB_reachable h
  have hf := invF_reachable h
  have hr := no_lost_wakeup h (by omega) hq
  have hlen : s.workers.length = 1 := by rw [ha.wlen]; exact h1
  match hws : s.workers, hlen with
  | [pc], _ =>
      have hfifo := hf.fifo pc hws
      have hp : pendOf pc = [] := by
        have hz := List.countP_eq_zero.mp hr.none_running pc (by rw [hws]; simp)
        cases pc <;> simp_all [pendOf, WPc.running]
      rw [hb.acc_split, hr.queue_empty, hb.hard_done hr.stopper_done, ← hfifo, hp]
      simp

/-! ### client code that blocks or re-enters the pool

The pool does not know what a job does.  A job body may submit to the same pool and wait for that job; a `Drop`
(of a future core, say) passes the cancellation on by submitting its continuation to the same pool.  In the model
every such Submit is one more Submit stream (`w.subs`): the theorems above hold whoever performs a Submit and
whenever.  What the pool must guarantee for this to work is stated here. -/

/-- `Call` and `Drop` are invoked with the mutex released: the calling thread is not inside a critical section
    (so a `Call`/`Drop` that re-enters `Submit`/`Alive` does not deadlock with itself) … -/
theorem client_code_outside_lock {l : Label} {s' : State} (hs : Step s l s') :
    (∀ i j, l = .call i j → s.workers[i]? = some (.calling j)) ∧
    (∀ j, l = .drop .stopper j → ∃ rest, s.xpc = .dropping (j :: rest)) ∧
    (∀ i j, l = .drop (.sub i) j → ∃ sb, s.subs[i]? = some sb ∧ sb.pc = .dropping) := by
  cases hs <;> refine ⟨?_, ?_, ?_⟩ <;> intros <;> simp_all

/-- … and a critical section never contains client code or a blocking operation: whenever the mutex is held,
    its holder can release it at once.  Hence every Submit — also one made from inside a Call or a Drop — gets the
    mutex -/
theorem critical_section_always_ends (h : Reachable w s) (hl : s.locked = true) : ∃ t s', Step s (.unlock t) s' :=
  unlock_enabled_of_locked (invA_reachable h) hl

/-- **work conservation**: while a worker sleeps, every queued job is covered by a wake-up that is already on its
    way and does not depend on any job body returning — a worker that just started / left the wait queue / holds the
    mutex, or a `notify_one` that a Submit is about to issue.  Workers inside a Call do not count. -/
theorem work_conserving (h : Reachable w s) (hp : WPc.parked ∈ s.workers) :
    s.queue.length ≤ s.workers.countP WPc.heading + s.subs.countP Sub.isNotifying :=
  (invW_reachable h).conserve hp

/-- consequently: when the pool's own code has come to rest — only client-controlled steps remain: a job body that has
    not returned yet (it may be waiting for a queued job!), a client that has not called Submit / Stop / Wait yet,
    HardStop's next Drop — no accepted job is left in the queue while a worker sleeps.  (This is the "no lost
    wake-up" theorem for jobs that depend on each other; `no_lost_wakeup` is the case where no client code blocks.) -/
theorem no_idle_worker_with_queued_job (h : Reachable w s) (hq : PoolAtRest s) :
    s.locked = false ∧ (s.queue = [] ∨ WPc.parked ∉ s.workers) := by
  have hr := heading_zero_of_at_rest (invA_reachable h) hq
  refine ⟨hr.1, ?_⟩
  by_cases hp : WPc.parked ∈ s.workers
  · left
    have := work_conserving h hp
    rw [hr.2.1, hr.2.2] at this
    exact List.eq_nil_of_length_eq_zero (by omega)
  · exact Or.inr hp

/-! ### the pool as a base executor for strands (composition with C07)

`poolExec n stop spur` (Proofs/PoolExec.lean) is the pool model as an *open* executor in the sense of
Proofs/StrandTower.lean: clients may call `Submit` with any fresh job at any time (Submit streams are created on
demand — the model is monotone in its workload, Proofs/PoolExt.lean), job bodies belong to the client (a body returns
when the client says so, and only then does the worker go on to `lock.lock()`).  Interface events: `sub a` = `Submit(a)`
is called, `call a` / `ret a` = the body is entered / returns, `drop a` = `a.Drop()` by the rejecting Submit or by
HardStop; every other step of the model (lock, unlock, notify, wake-up, the stopper's own steps, Wait) is invisible. -/

/-- **the FairThreadPool honours the IExecutor contract** (`Strand.ExecContract`), for every number of workers
    n ≥ 1, whichever of Stop / SoftStop / HardStop is called (or none) at whatever moment, with or without spurious
    wake-ups: it Calls / Drops only pending jobs; `Submit` can always be called and a body can always return; when
    the pool has nothing left to do and no body is running, no submitted job is pending. -/
theorem pool_honours_contract {n : Nat} (hn : 0 < n) (stop : Option StopKind) (spur : Bool) :
    Strand.ExecContract (poolExec n stop spur) := pool_contract hn stop spur

/-- the interface state of the open pool is a function of its state (`absP`), i.e. the events are the only way the
    clients' view changes: every non-event step of the pool is invisible -/
theorem pool_interface_state {n : Nat} {stop : Option StopKind} {spur : Bool} {x : (poolExec n stop spur).σ}
    {p : Strand.Prot} (h : (poolExec n stop spur).Run x p) : p = absP x ∧ Reachable (wN n stop x.m.subs.length) x.m :=
  ⟨run_abs h, (pxinv_reach h.reach).reach⟩

/-- **a pool that nobody stops never Drops**: in every reachable state of the open pool without a stopper no `drop`
    event is possible (the stop bits are never set, so no Submit rejects; there is no HardStop).  (The literal
    `CoMutex.NeverDrops (poolExec n none spur)`, which quantifies over unreachable states too, is false — see
    Proofs/PoolExecNoDrop.lean and `CoMutex.pool_none_neverDrops_false`.) -/
theorem pool_never_drops_unstopped {n : Nat} {spur : Bool} {x : (poolExec n none spur).σ}
    (hr : (poolExec n none spur).Reach x) {l : PLab} {x' : PX} (hs : (poolExec n none spur).step x l x') (a : Nat) :
    (poolExec n none spur).ev l ≠ some (.drop a) := unstopped_no_drop hr hs a

/-- the same system with the unreachable drop steps removed from its step relation (`poolExecAlive`) has the same
    reachable states and the same steps from them, never Drops from *any* state, and honours the contract — this is the
    form the composition theorem of C14 (coroutine Mutex over an executor that keeps accepting work) consumes -/
theorem unstopped_pool_alive {n : Nat} (hn : 0 < n) (spur : Bool) :
    (∀ x, (poolExecAlive n spur).Reach x ↔ (poolExec n none spur).Reach x) ∧
    (∀ x, (poolExec n none spur).Reach x → ∀ l x', (poolExecAlive n spur).step x l x' ↔ (poolExec n none spur).step x l x') ∧
    (∀ x l x' a, (poolExecAlive n spur).step x l x' → (poolExecAlive n spur).ev l ≠ some (.drop a)) ∧
    Strand.ExecContract (poolExecAlive n spur) :=
  ⟨fun _ => alive_reach_iff, fun _ h l x' => alive_step_iff h l x', alive_never_drops n spur, alive_contract hn spur⟩

/-- **strands stacked on a FairThreadPool**: a tower of strands of any height over the pool honours the contract … -/
theorem tower_over_pool {n : Nat} (hn : 0 < n) (stop : Option StopKind) (spur : Bool) (k : Nat) :
    Strand.ExecContract (Strand.tower (poolExec n stop spur) k) :=
  Strand.tower_satisfies_contract (pool_contract hn stop spur) k

/-- … and nothing is lost in it: when no thread of the whole system (clients with any workload, the strands of every
    level, the pool's workers, submitting threads and stopper) can take a step, every client has returned from its last
    Submit, the top strand is idle, and every strand below is idle with every job handed to it Called or Dropped -/
theorem tower_over_pool_nothing_lost {n : Nat} (hn : 0 < n) (stop : Option StopKind) (spur : Bool) {w : Strand.Workload}
    {k : Nat} {s : (Strand.towerTop w (poolExec n stop spur) k).σ}
    (hr : (Strand.towerTop w (poolExec n stop spur) k).Reach s)
    (hq : ∀ l s', ¬ (Strand.towerTop w (poolExec n stop spur) k).step s l s') :
    Strand.LevelDone s.1 ∧ (∀ i, s.1.sidx i = Strand.jobsOf w i) ∧
    ∀ v ∈ Strand.levels (poolExec n stop spur) k s.2.1, Strand.LevelDone v :=
  Strand.top_quiescent (pool_contract hn stop spur) hr hq

/-- non-vacuity: the open pool (one worker, Stop possible) takes a job through Submit → push → pop → Call → return;
    the client's view goes fresh → pending → calling → finished -/
example : ∃ (x : (poolExec 1 (some .stop) false).σ) (p : Strand.Prot), (poolExec 1 (some .stop) false).Run x p ∧
    p 0 = .finished ∧ p 1 = .fresh ∧ x.m.started = [⟨0, 0⟩] ∧ x.inBody = [] := by
  have h0 : (poolExec 1 (some .stop) false).Run _ _ := Strand.Exec.Run.init
  have h1 := Strand.Exec.Run.inp h0 (PStep.m 1 (next_sound (l := .submit 0 ⟨0, 0⟩) rfl) trivial (fun _ => rfl)) rfl rfl rfl
  have h2 := Strand.Exec.Run.tau h1 (PStep.m 0 (next_sound (l := .lock (.sub 0)) rfl) trivial (fun _ => rfl)) rfl
  have h3 := Strand.Exec.Run.tau h2 (PStep.m 0 (next_sound (l := .unlock (.sub 0)) rfl) trivial (fun _ => rfl)) rfl
  have h4 := Strand.Exec.Run.tau h3 (PStep.m 0 (next_sound (l := .notifyOne 0 none) rfl) trivial (fun _ => rfl)) rfl
  have h5 := Strand.Exec.Run.tau h4 (PStep.m 0 (next_sound (l := .lock (.worker 0)) rfl)
    (fun _ a => List.not_mem_nil) (fun _ => rfl)) rfl
  have h6 := Strand.Exec.Run.tau h5 (PStep.m 0 (next_sound (l := .unlock (.worker 0)) rfl) trivial (fun _ => rfl)) rfl
  have h7 := Strand.Exec.Run.out h6 (PStep.m 0 (next_sound (l := .call 0 ⟨0, 0⟩) rfl) trivial (fun _ => rfl)) rfl rfl
  have h8 := Strand.Exec.Run.inp h7 (PStep.ret (i := 0) (a := 0) (List.mem_singleton.mpr rfl)) rfl rfl rfl
  exact ⟨_, _, h8, rfl, rfl, rfl, rfl⟩

/-- everything the trace validator accepts is a behaviour the theorems speak about -/
theorem validator_sound {l : Label} {s' : State} (h : Reachable w s) (hn : next s l = some s') : Reachable w s' :=
  .step h (next_sound hn)

/-! ### non-vacuity: concrete workloads reach the interesting states -/

/-- one worker, one job, Stop after the submission: the worker sleeps, is woken by `notify_one`, sees the stop bit
    only after it drained the queue, runs the job, leaves; Wait returns -/
example : ∃ s, Reachable ⟨1, [1], some .stop⟩ s ∧ s.started = [⟨0, 0⟩] ∧ s.waitReturned = true ∧ s.cnt = 1 := by
  have h : Reachable ⟨1, [1], some .stop⟩ _ := runL_preserves (next := next) validator_sound .init
    [.lock (.worker 0),
     .unlock (.worker 0),  -- waits
     .submit 0 ⟨0, 0⟩, .lock (.sub 0),
     .unlock (.sub 0),  -- accepted, count = 4
     .stopBegin .stop, .lock .stopper,
     .unlock .stopper,  -- count = 5
     .notifyOne 0 (some 0), .notifyAll .stopper, .lock (.worker 0),
     .unlock (.worker 0),  -- pops although stopped
     .call 0 ⟨0, 0⟩, .lock (.worker 0),
     .unlock (.worker 0),  -- count = 1, exits
     .waitReturn] rfl
  exact ⟨_, h, rfl, rfl, rfl⟩

/-- HardStop takes a queued job away and Drops it; a Submit after the stop is rejected -/
example : ∃ s, Reachable ⟨1, [2], some .hard⟩ s ∧ s.started = [] ∧ s.hardDropped = [⟨0, 0⟩] ∧ s.rejected = [⟨0, 1⟩] ∧
    s.cnt = 5 := by
  have h : Reachable ⟨1, [2], some .hard⟩ _ := runL_preserves (next := next) validator_sound .init
    [.submit 0 ⟨0, 0⟩, .lock (.sub 0), .unlock (.sub 0), .notifyOne 0 none, .stopBegin .hard, .lock .stopper,
     .unlock .stopper, .notifyAll .stopper, .drop .stopper ⟨0, 0⟩, .submit 0 ⟨0, 1⟩, .lock (.sub 0), .unlock (.sub 0),
     .drop (.sub 0) ⟨0, 1⟩, .lock (.worker 0),
     .unlock (.worker 0)] rfl  -- sees the stop bit, leaves
  exact ⟨_, h, rfl, rfl, rfl, rfl⟩

/-- SoftStop with a job in flight only sets the want bit (count 4 → 6); the worker that finishes the last job sets
    the stop bit (6 → 2 → 3) and notifies; two workers -/
example : ∃ s, Reachable ⟨2, [1], some .soft⟩ s ∧ s.started = [⟨0, 0⟩] ∧ s.cnt = 3 ∧ s.workers = [.exited, .exited] ∧
    s.waitReturned = true := by
  have h : Reachable ⟨2, [1], some .soft⟩ _ := runL_preserves (next := next) validator_sound .init
    [.lock (.worker 1),
     .unlock (.worker 1),  -- worker 1 waits
     .submit 0 ⟨0, 0⟩, .lock (.sub 0), .unlock (.sub 0), .lock (.worker 0),
     .unlock (.worker 0),  -- worker 0 pops
     .stopBegin .soft, .lock .stopper,
     .unlock .stopper,  -- want bit only
     .notifyOne 0 (some 1), .lock (.worker 1),
     .unlock (.worker 1),  -- a job is running: waits again
     .call 0 ⟨0, 0⟩, .lock (.worker 0),
     .unlock (.worker 0),  -- NoJobs && WantStop: Stop
     .notifyAll (.worker 0), .lock (.worker 1),
     .unlock (.worker 1),  -- Stop once more, harmless
     .notifyAll (.worker 1), .waitReturn] rfl
  exact ⟨_, h, rfl, rfl, rfl, rfl⟩

/-- the quiescence theorem is not vacuous: without a stopper the pool comes to rest with all workers asleep -/
example : ∃ s, Reachable ⟨1, [], none⟩ s ∧ s.workers = [.parked] ∧ s.locked = false := by
  have h : Reachable ⟨1, [], none⟩ _ := runL_preserves (next := next) validator_sound .init
    [.lock (.worker 0), .unlock (.worker 0)] rfl
  exact ⟨_, h, rfl, rfl⟩

end Yaclib.Props.C08

/-! ### tie to the source
T1: `Extracted/PoolConsts.lean` (bit predicates and increments of `_jobs_count`) is regenerated from /repo on every
check run; the model *uses* those definitions, and the layout the proofs rely on is re-proved from them here.
T2: the kernels this model was written from are unchanged (`Extracted/Kernels.lean` is regenerated, too). -/
namespace Yaclib.Props.C08.Tie
open Yaclib Yaclib.Extracted.PoolConsts

theorem t1_extraction_ok : extractionOk = true := Pool.Bits.extraction_ok
theorem t1_init : initCount = 0 := Pool.Bits.initCount_eq
/-- count = 4 * jobs + 2 * wantStop + wasStop -/
theorem t1_layout (jobs : Nat) (want was : Bool) :
    let c := 4 * jobs + 2 * want.toNat + was.toNat
    wasStop c = was ∧ wantStop c = want ∧ noJobs c = decide (jobs = 0) ∧
    submitAdd c = 4 * (jobs + 1) + 2 * want.toNat + was.toNat ∧
    (0 < jobs → loopSub c = 4 * (jobs - 1) + 2 * want.toNat + was.toNat) ∧
    softWant c = 4 * jobs + 2 + was.toNat ∧ stopSet c = 4 * jobs + 2 * want.toNat + 1 := by
  intro c
  rw [Pool.Bits.wasStop_eq, Pool.Bits.wantStop_eq, Pool.Bits.noJobs_eq, Pool.Bits.submitAdd_eq, Pool.Bits.loopSub_eq,
    Pool.Bits.softWant_eq, Pool.Bits.stopSet_eq]
  have hc : c = 4 * jobs + 2 * want.toNat + was.toNat := rfl
  cases want <;> cases was <;> simp only [Bool.toNat_true, Bool.toNat_false] at hc <;>
    refine ⟨?_, ?_, ?_, ?_, ?_, ?_, ?_⟩ <;> (try intro _) <;>
    simp only [Bool.toNat_true, Bool.toNat_false, decide_eq_true_eq, decide_eq_false_iff_not,
      decide_eq_decide] <;> omega

theorem tie_ctor : Extracted.Kernels.FairThreadPool_ctor = Skeletons.FairThreadPool_ctor := rfl
theorem tie_Submit : Extracted.Kernels.FairThreadPool_Submit = Skeletons.FairThreadPool_Submit := rfl
theorem tie_SoftStop : Extracted.Kernels.FairThreadPool_SoftStop = Skeletons.FairThreadPool_SoftStop := rfl
theorem tie_Stop : Extracted.Kernels.FairThreadPool_Stop = Skeletons.FairThreadPool_Stop := rfl
theorem tie_StopLocked : Extracted.Kernels.FairThreadPool_StopLocked = Skeletons.FairThreadPool_StopLocked := rfl
theorem tie_HardStop : Extracted.Kernels.FairThreadPool_HardStop = Skeletons.FairThreadPool_HardStop := rfl
theorem tie_Wait : Extracted.Kernels.FairThreadPool_Wait = Skeletons.FairThreadPool_Wait := rfl
theorem tie_Loop : Extracted.Kernels.FairThreadPool_Loop = Skeletons.FairThreadPool_Loop := rfl
theorem tie_WasStop : Extracted.Kernels.FairThreadPool_WasStop = Skeletons.FairThreadPool_WasStop := rfl
theorem tie_WantStop : Extracted.Kernels.FairThreadPool_WantStop = Skeletons.FairThreadPool_WantStop := rfl
theorem tie_NoJobs : Extracted.Kernels.FairThreadPool_NoJobs = Skeletons.FairThreadPool_NoJobs := rfl
theorem tie_Alive : Extracted.Kernels.FairThreadPool_Alive = Skeletons.FairThreadPool_Alive := rfl
theorem tie_List_MoveCtor : Extracted.Kernels.List_MoveCtor = Skeletons.List_MoveCtor := rfl
theorem tie_List_PushBack : Extracted.Kernels.List_PushBack = Skeletons.List_PushBack := rfl
theorem tie_List_Empty : Extracted.Kernels.List_Empty = Skeletons.List_Empty := rfl
theorem tie_List_PopFront : Extracted.Kernels.List_PopFront = Skeletons.List_PopFront := rfl

end Yaclib.Props.C08.Tie
