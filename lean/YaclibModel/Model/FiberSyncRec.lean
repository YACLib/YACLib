/-
C18 — model `Rm` of `fiber::RecursiveMutex` / `fiber::RecursiveTimedMutex`.

Written from /repo: src/fault/fiber/recursive_mutex.cpp, include/yaclib/fault/detail/fiber/recursive_timed_mutex.hpp
(scheduler abstraction and conventions as in Model/FiberSync.lean).

History: until the fix commit 4d75ee5 the code had
  D4  `RecursiveMutex::unlock` never called `_queue.NotifyOne()`: a fiber parked by `lock()` slept forever although the
      mutex was released — scenario `rec f0=L,L,U,U f1=L,U`, choices `k0/2 p0/2 p0/2 p1/2`;
  D6  `lock()` / `TimedWaitHelper` called `LockHelper()` after the wait without re-checking the condition (single `if`) —
      masked by D4 (nobody was ever woken); repairing D4 alone would have produced two owners
      (f0 holds, f1 parks, f0 unlocks and notifies f1, f2 locks, f1 resumes → `LockHelper()`),
and this model contained them (see git history and notes/C18.md).  It now describes the repaired code: `unlock()`
notifies one waiter when the count drops to 0, `lock()` waits in a `while`, `TimedWaitHelper` in
`while (r && …)` with the deadline computed once at the call.
-/
import YaclibModel.Model.FiberSync

namespace Yaclib.FiberSync.Rm
open Yaclib.FiberSync

inductive Pc where
  | idle | done
  | parked                     -- `lock()`: on `_queue`, no deadline
  | tParked (req dl : Nat)     -- `TimedWaitHelper`: on `_queue` and the sleep list
  | locking                    -- notified: evaluates the `while` condition of `lock()` again
  | tLocking (req : Nat)       -- notified: evaluates `while (r && …)` of `TimedWaitHelper` again
  | sleeping (dl : Nat)
  deriving DecidableEq, Repr

def Pc.inQ : Pc → Bool
  | .parked => true
  | .tParked _ _ => true
  | _ => false

def Pc.rechecks : Pc → Bool
  | .locking => true
  | .tLocking _ => true
  | _ => false

def wake : Pc → Pc
  | .parked => .locking
  | .tParked req _ => .tLocking req
  | p => p

structure State where
  timed : Bool
  pc : Fid → Pc
  owner : Option Fid           -- `_owner_id` (0 = nobody)
  count : Nat                  -- `_occupied_count`
  rq : List Fid                -- `_queue`
  now : Nat
  -- ghost
  holders : List Fid           -- one entry per successful acquisition not yet released
  transit : List Fid           -- fibers made runnable by a NotifyOne that have not run yet

def init (timed : Bool) (n : Nat) : State :=
  { timed := timed, pc := fun g => if g < n then .idle else .done, owner := none,
    count := 0, rq := [], now := 0, holders := [], transit := [] }

/-- the condition under which `lock()` / `try_lock()` do not wait: `!(_occupied_count != 0 && _owner_id != me)` -/
def Free (s : State) (f : Fid) : Prop := s.count = 0 ∨ s.owner = some f

instance (s : State) (f : Fid) : Decidable (Free s f) := by unfold Free; exact inferInstance

/-- whom `unlock` wakes: a waiter iff the count dropped to 0 -/
def PatchPick (s : State) (w : Option Fid) : Prop := if s.count - 1 = 0 then PickOk s.rq w else w = none

instance (s : State) (w : Option Fid) : Decidable (PatchPick s w) := by unfold PatchPick; exact inferInstance

inductive Label where
  | lockAcq (f : Fid)                            -- `f E ret lock`
  | lockPark (f : Fid)                           -- `f M rq park 0`
  | tryLock (f : Fid) (ok : Bool)                -- `f E ret try_lock b`
  | unlock (f : Fid) (w : Option Fid)            -- `f M rq notify_one r idx` (last unlock only) + `f E ret unlock`
  | tlfAcq (f : Fid)                             -- `f E ret try_lock_for 1`
  | tlfPark (f : Fid) (t d j : Nat)              -- `f M rq park_timed 0 @t j=j`
  | tlfTimeout (f : Fid) (t : Nat)               -- `f M rq wake 1 @t`
  | tlfRepark (f : Fid) (j : Nat)                -- `f M rq park_timed 0 j=j` after a wake-up
  | sleepStart (f : Fid) (t d : Nat) | sleepWake (f : Fid) (t : Nat)
  | finish (f : Fid)
  deriving DecidableEq, Repr

/-- `LockHelper()`: `_occupied_count++; _owner_id = me` -/
def lockHelper (s : State) (f : Fid) : State :=
  { s with count := s.count + 1, owner := some f, holders := s.holders ++ [f], pc := upd s.pc f .idle,
           transit := rm s.transit f }

/-- `unlock()` without its notification: `_occupied_count--; if (_occupied_count == 0) _owner_id = 0;` -/
def doUnlock (s : State) (f : Fid) : State :=
  { s with count := s.count - 1, owner := if s.count - 1 = 0 then none else s.owner, holders := s.holders.erase f }

def notifyR (s : State) : Option Fid → State
  | none => s
  | some g => { s with rq := rm s.rq g, pc := upd s.pc g (wake (s.pc g)), transit := s.transit ++ [g] }

def doPark (s : State) (f : Fid) : State :=
  { s with rq := s.rq ++ [f], pc := upd s.pc f .parked, transit := rm s.transit f }

def doTlfRepark (s : State) (f : Fid) (req j : Nat) : State :=
  { s with rq := s.rq ++ [f], pc := upd s.pc f (.tParked req (req + j)), transit := rm s.transit f }

def doTlfPark (s : State) (f : Fid) (t d j : Nat) : State :=
  { s with rq := s.rq ++ [f], pc := upd s.pc f (.tParked (t + d) (t + d + j)), now := t }

def doTlfTimeout (s : State) (f : Fid) (t : Nat) : State :=
  { s with rq := rm s.rq f, pc := upd s.pc f .idle, now := t }

inductive Step : State → Label → State → Prop where
  | lockFast (s : State) (f : Fid) (h : s.pc f = .idle) (hf : Free s f) : Step s (.lockAcq f) (lockHelper s f)
  | lockPark (s : State) (f : Fid) (h : s.pc f = .idle) (hf : ¬ Free s f) : Step s (.lockPark f) (doPark s f)
  /-- after the wake-up: the `while` condition again -/
  | lockRecheckAcq (s : State) (f : Fid) (h : s.pc f = .locking) (hf : Free s f) : Step s (.lockAcq f) (lockHelper s f)
  | lockRepark (s : State) (f : Fid) (h : s.pc f = .locking) (hf : ¬ Free s f) : Step s (.lockPark f) (doPark s f)
  | tryOk (s : State) (f : Fid) (h : s.pc f = .idle) (hf : Free s f) : Step s (.tryLock f true) (lockHelper s f)
  | tryFail (s : State) (f : Fid) (h : s.pc f = .idle) (hf : ¬ Free s f) : Step s (.tryLock f false) s
  /-- `unlock()`: … `if (_occupied_count == 0) { _owner_id = 0; _queue.NotifyOne(); }` -/
  | unlock (s : State) (f : Fid) (w : Option Fid) (h : s.pc f = .idle) (hh : f ∈ s.holders) (hw : PatchPick s w) :
      Step s (.unlock f w) (notifyR (doUnlock s f) w)
  | tlfFast (s : State) (f : Fid) (hk : s.timed = true) (h : s.pc f = .idle) (hf : Free s f) :
      Step s (.tlfAcq f) (lockHelper s f)
  | tlfPark (s : State) (f : Fid) (t d j : Nat) (hk : s.timed = true) (h : s.pc f = .idle) (hf : ¬ Free s f)
      (ht : s.now ≤ t) : Step s (.tlfPark f t d j) (doTlfPark s f t d j)
  | tlfRecheckAcq (s : State) (f : Fid) (req : Nat) (hk : s.timed = true) (h : s.pc f = .tLocking req) (hf : Free s f) :
      Step s (.tlfAcq f) (lockHelper s f)
  | tlfRepark (s : State) (f : Fid) (req j : Nat) (hk : s.timed = true) (h : s.pc f = .tLocking req) (hf : ¬ Free s f) :
      Step s (.tlfRepark f j) (doTlfRepark s f req j)
  | tlfTimeout (s : State) (f : Fid) (t req dl : Nat) (hk : s.timed = true) (h : s.pc f = .tParked req dl)
      (hd : dl ≤ t) (ht : s.now ≤ t) : Step s (.tlfTimeout f t) (doTlfTimeout s f t)
  | sleepStart (s : State) (f : Fid) (t d : Nat) (h : s.pc f = .idle) (ht : s.now ≤ t) :
      Step s (.sleepStart f t d) { s with pc := upd s.pc f (.sleeping (t + d)), now := t }
  | sleepWake (s : State) (f : Fid) (t dl : Nat) (h : s.pc f = .sleeping dl) (hd : dl ≤ t) (ht : s.now ≤ t) :
      Step s (.sleepWake f t) { s with pc := upd s.pc f .idle, now := t }
  | finish (s : State) (f : Fid) (h : s.pc f = .idle) : Step s (.finish f) { s with pc := upd s.pc f .done }

inductive Reachable (timed : Bool) (n : Nat) : State → Prop where
  | init : Reachable timed n (init timed n)
  | step {s l s'} : Reachable timed n s → Step s l s' → Reachable timed n s'

def Quiescent (s : State) : Prop := ∀ l s', ¬ Step s l s'

def next (s : State) : Label → Option State
  | .lockAcq f =>
      match s.pc f with
      | .idle => if Free s f then some (lockHelper s f) else none
      | .locking => if Free s f then some (lockHelper s f) else none
      | _ => none
  | .lockPark f =>
      match s.pc f with
      | .idle => if ¬ Free s f then some (doPark s f) else none
      | .locking => if ¬ Free s f then some (doPark s f) else none
      | _ => none
  | .tryLock f ok =>
      if s.pc f = .idle then
        if ok then (if Free s f then some (lockHelper s f) else none)
        else (if ¬ Free s f then some s else none)
      else none
  | .unlock f w =>
      if s.pc f = .idle ∧ f ∈ s.holders ∧ PatchPick s w then some (notifyR (doUnlock s f) w) else none
  | .tlfAcq f =>
      if s.timed = true then
        match s.pc f with
        | .idle => if Free s f then some (lockHelper s f) else none
        | .tLocking _ => if Free s f then some (lockHelper s f) else none
        | _ => none
      else none
  | .tlfRepark f j =>
      if s.timed = true then
        match s.pc f with
        | .tLocking req => if ¬ Free s f then some (doTlfRepark s f req j) else none
        | _ => none
      else none
  | .tlfPark f t d j =>
      if s.timed = true ∧ s.pc f = .idle ∧ ¬ Free s f ∧ s.now ≤ t then some (doTlfPark s f t d j) else none
  | .tlfTimeout f t =>
      if s.timed = true then
        match s.pc f with
        | .tParked _ dl => if dl ≤ t ∧ s.now ≤ t then some (doTlfTimeout s f t) else none
        | _ => none
      else none
  | .sleepStart f t d =>
      if s.pc f = .idle ∧ s.now ≤ t then some { s with pc := upd s.pc f (.sleeping (t + d)), now := t } else none
  | .sleepWake f t =>
      match s.pc f with
      | .sleeping dl => if dl ≤ t ∧ s.now ≤ t then some { s with pc := upd s.pc f .idle, now := t } else none
      | _ => none
  | .finish f => if s.pc f = .idle then some { s with pc := upd s.pc f .done } else none

theorem next_sound {s : State} {l : Label} {s' : State} (h : next s l = some s') : Step s l s' := by
  cases l with
  | lockAcq f =>
      simp only [next] at h; (repeat' split at h) <;> cases h
      · exact .lockFast s f ‹_› ‹_›
      · exact .lockRecheckAcq s f ‹_› ‹_›
  | lockPark f =>
      simp only [next] at h; (repeat' split at h) <;> cases h
      · exact .lockPark s f ‹_› ‹_›
      · exact .lockRepark s f ‹_› ‹_›
  | tlfAcq f =>
      simp only [next] at h; (repeat' split at h) <;> cases h
      · exact .tlfFast s f ‹_› ‹_› ‹_›
      · exact .tlfRecheckAcq s f _ ‹_› ‹_› ‹_›
  | _ =>
      simp only [next] at h; (repeat' split at h) <;> cases h <;> (repeat cases ‹_ ∧ _›) <;>
        (try simp only [Bool.not_eq_true] at *) <;> subst_vars <;> constructor <;> first | assumption | simp_all

end Yaclib.FiberSync.Rm
