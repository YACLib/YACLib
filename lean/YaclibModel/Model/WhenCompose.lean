/-
`WhenU` — the combinator model (Model/When.lean) composed with n instances of the unique hand-off model of C01
(Model/Unique.lean), one per input.

Model/When.lean abstracts each input by an interface: "the combinator callback of input i is entered exactly once, either
inline by the registering thread (`regSet i false`: `SetCallback` returned false, the input was already complete) or by the
completing thread after the callback was installed (`regSet i true` … `fire i`)".  Here that interface is not assumed: input i
is a full Unique instance with producer `Promise::Set(outcome of input i)` and consumer program `[attach]` (the combinator's
`core.SetCallback(callback)`), run at its own atomic-operation granularity:

  Unique instance i                                   combinator (When)
  ------------------------------------------------    -------------------------------------------------
  consumer `cLoad x`   (pre-check load of the word)   —            (the registering thread is inside SetCallback)
  consumer `cCas cont true`  (callback installed)     `regSet i true`
  consumer `cCas cont false` (result arrived)         —
  consumer `invoke c r` (inline: SetCallback = false) `regSet i false`   (callback entered by the registering thread)
  producer `pXchg old`  (Promise::Set: exchange)      —
  producer `invoke p r` (took the callback, runs it)  `fire i`           (callback entered by the completing thread)

The consumer of instance i is the registering thread: it moves only while the registration loop is at input i
(`reg = i`) and is not busy consuming an earlier input inline (`busy = none`).  The When component's state is updated with
the effect functions of its two interface steps WITHOUT asking for their guards: that the guards hold whenever the
Unique instances produce the events is the theorem (Proofs/WhenCompose.lean, `sim`).
-/
import YaclibModel.Model.When
import YaclibModel.Model.Unique

namespace Yaclib.WhenU
open Yaclib

/-- what a unique core can tell apart of an input's outcome -/
def conv : When.Res → Unique.Res
  | .val v => .val v
  | .err _ => .err
  | .exc _ => .exc

/-- input i as a C01 workload: `Promise::Set(outcome)`; the consumer attaches one inline continuation (the combinator callback) -/
def wU (w : When.Workload) (i : Nat) : Unique.Workload := ⟨.set (conv (w.inp i)), [], .attach false⟩

structure State where
  wh : When.State
  u : Nat → Unique.State

def init (w : When.Workload) : State := ⟨When.init w, fun i => Unique.init (wU w i)⟩

inductive Label where
  | when (l : When.Label)                    -- a step of the combinator that is not an interface event
  | prod (i : Nat) (old : Unique.Word)       -- Promise::Set of input i: the exchange on its word
  | cload (i : Nat) (x : Unique.Word)        -- SetCallback on input i: the pre-check load
  | casOk (i : Nat)                          -- … the CAS succeeded: callback installed
  | casFail (i : Nat)                        -- … the CAS failed: the result is there
  | enterC (i : Nat) (r : Unique.Res)        -- the registering thread enters the callback of input i (inline)
  | enterP (i : Nat) (r : Unique.Res)        -- the completing thread enters the callback of input i
  deriving DecidableEq, Repr

/-- the When model's interface (environment) steps -/
def isEnv : When.Label → Bool
  | .regSet _ _ => true
  | .fire _ => true
  | _ => false

/-- the registering thread is at input i and free -/
def regAt (w : When.Workload) (s : When.State) (i : Nat) : Prop :=
  s.reg = i ∧ s.busy = none ∧ i < w.n ∧ s.crashed = false

instance (w : When.Workload) (s : When.State) (i : Nat) : Decidable (regAt w s i) := by unfold regAt; exact inferInstance

inductive Step (w : When.Workload) : State → Label → State → Prop where
  | when (S : State) (l : When.Label) (wh' : When.State) (hl : isEnv l = false) (h : When.Step w S.wh l wh') :
      Step w S (.when l) { S with wh := wh' }
  | prod (S : State) (i : Nat) (old : Unique.Word) (u' : Unique.State) (hi : i < w.n)
      (h : Unique.Step (S.u i) (.pXchg old) u') : Step w S (.prod i old) { S with u := When.upd S.u i u' }
  | cload (S : State) (i : Nat) (x : Unique.Word) (u' : Unique.State) (hr : regAt w S.wh i)
      (h : Unique.Step (S.u i) (.cLoad x) u') : Step w S (.cload i x) { S with u := When.upd S.u i u' }
  | casOk (S : State) (i : Nat) (u' : Unique.State) (hr : regAt w S.wh i)
      (h : Unique.Step (S.u i) (.cCas .cont true) u') :
      Step w S (.casOk i) ⟨When.doRegSet w S.wh i true, When.upd S.u i u'⟩
  | casFail (S : State) (i : Nat) (u' : Unique.State) (hr : regAt w S.wh i)
      (h : Unique.Step (S.u i) (.cCas .cont false) u') : Step w S (.casFail i) { S with u := When.upd S.u i u' }
  | enterC (S : State) (i : Nat) (r : Unique.Res) (u' : Unique.State) (hr : regAt w S.wh i)
      (h : Unique.Step (S.u i) (.invoke .c r) u') :
      Step w S (.enterC i r) ⟨When.doRegSet w S.wh i false, When.upd S.u i u'⟩
  | enterP (S : State) (i : Nat) (r : Unique.Res) (u' : Unique.State) (hi : i < w.n)
      (h : Unique.Step (S.u i) (.invoke .p r) u') :
      Step w S (.enterP i r) ⟨When.doFire w S.wh i, When.upd S.u i u'⟩

inductive Reachable (w : When.Workload) : State → Prop where
  | init : Reachable w (init w)
  | step {S l S'} : Reachable w S → Step w S l S' → Reachable w S'

/-- executable transition function: the components' own `next` -/
def next (w : When.Workload) (S : State) : Label → Option State
  | .when l => if isEnv l = false then (When.next w S.wh l).map (fun wh' => { S with wh := wh' }) else none
  | .prod i old =>
      if i < w.n then (Unique.next (S.u i) (.pXchg old)).map (fun u' => { S with u := When.upd S.u i u' }) else none
  | .cload i x =>
      if regAt w S.wh i then (Unique.next (S.u i) (.cLoad x)).map (fun u' => { S with u := When.upd S.u i u' }) else none
  | .casOk i =>
      if regAt w S.wh i then
        (Unique.next (S.u i) (.cCas .cont true)).map (fun u' => ⟨When.doRegSet w S.wh i true, When.upd S.u i u'⟩)
      else none
  | .casFail i =>
      if regAt w S.wh i then
        (Unique.next (S.u i) (.cCas .cont false)).map (fun u' => { S with u := When.upd S.u i u' })
      else none
  | .enterC i r =>
      if regAt w S.wh i then
        (Unique.next (S.u i) (.invoke .c r)).map (fun u' => ⟨When.doRegSet w S.wh i false, When.upd S.u i u'⟩)
      else none
  | .enterP i r =>
      if i < w.n then (Unique.next (S.u i) (.invoke .p r)).map (fun u' => ⟨When.doFire w S.wh i, When.upd S.u i u'⟩)
      else none

theorem next_sound {w : When.Workload} {S : State} {l : Label} {S' : State} (h : next w S l = some S') : Step w S l S' := by
  cases l <;> simp only [next, Option.map] at h <;> (repeat' split at h) <;> cases h <;>
    constructor <;> first | assumption | exact When.next_sound ‹_› | exact Unique.next_sound ‹_›

end Yaclib.WhenU
