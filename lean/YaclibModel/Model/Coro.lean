/-
C13 — one coroutine (returning Future / Task / SharedFuture) and everything it co_awaits.

Written from /repo (as it is; D3 was repaired by /repo commit c9c07bc, the executor swap D12 by 8ca0444, ~Task of a completed
Task D13 by 2690a63):
  coro/detail/promise_type.hpp    PromiseType: `Here/Next(caller)` = `_executor = caller._executor` (a copy since 8ca0444; before:
                                  `std::move`, and IntrusivePtr move-assignment is a *Swap*: D12) then resume; `Call` = resume; `Drop` = `Store(StopTag)`,
                                  `SetResult`; `Destroy::await_suspend` (final_suspend) = `SetResult`; the frame is destroyed
                                  by the state's deleter (`PromiseTypeDeleter::Delete` = `handle.destroy()`)
  coro/detail/await_awaiter.hpp   AwaitSingleAwaiter<Shared> (`co_await future`), AwaitAwaiter<Handle,false> (`Await(x)`),
                                  AwaitAwaiter<Handle,true> (`AwaitSticky(x)`): `await_ready = Ready()` (word == kResult),
                                  `await_suspend = SetCallback(...)` (false ⇒ continue without suspending);
                                  MultiAwaitAwaiter<AwaitEvent<Sticky>>: counter n + 1, `await_ready: Get(acquire) == 1`,
                                  `await_suspend: next = promise; !SubEqual(1)`, the callback `AwaitEvent::Impl`:
                                  `if (SubEqual(1))` resume (`Here`: swap + resume) / Sticky: `_executor->Submit`;
                                  TransferAwaiter / TransferSingleAwaiter (Task): `StoreCallback`, start the task
  algo/detail/shared_event.hpp    SetCallbacksStatic/Dynamic: `wait_count += SetCallback(..)` for every awaited object,
                                  then `count.fetch_sub(n - wait_count, relaxed)`
  coro/detail/await_on_awaiter.hpp AwaitOnAwaiter (counter 1): always suspends, `_executor = e`, `SetCallback(*this)`, already
                                  complete ⇒ `e.Submit(core)`; the callback: `SubEqual(1)` ⇒ `Submit`;
                                  MultiAwaitOnAwaiter: counter n + 1, `await_suspend: if (SubEqual(1)) e.Submit(core)`
  coro/detail/on_awaiter.hpp, yield.hpp, current_executor.hpp   On(e): `_executor = e; e.Submit`; Yield: `_executor->Submit`;
                                  CurrentExecutor: `await_suspend` returns false, `await_resume` returns `*_executor`
  algo/base_core.cpp              `SetCallbackImpl<false>`: `load(acq) == kEmpty && compare_exchange_strong(empty → cb)`;
                                  `SetCallbackImpl<true>`: `load(acq)`; loop { result ⇒ false; compare_exchange_weak(next → cb) };
                                  `Ready()`: `load(acq) == kResult`;  `SetResultImpl`: `exchange(kResult)`, run the callback(s)

Scope: ONE coroutine against its environment.  Every awaited object ("cell" j) is abstracted by the interface its own
property proves (C01: unique hand-off word, C06: shared word = list of callbacks, push fails iff result):
the word holds the callbacks of *this* coroutine (`mine`, identified by the position p of the cell in the
current awaiter) and a flag saying that callbacks of *somebody else* are registered (`foreign`: other coroutines / subscribers
of the same SharedFuture).  The environment may, at any time,
  * fulfil a cell (`pXchg`: Store + exchange(kResult); a Task only after it was started),
  * register a foreign callback on a SharedFuture that has other observers (`envPush`),
  * change the executor stored in a started Task (`envSwap`: a running Task may move to another executor; nobody writes the
    executor of any other awaited core since 8ca0444),
  * Call or Drop a job that was submitted to an executor (the IExecutor contract: exactly one of them).
Several coroutines on one SharedFuture = several instances of this model sharing the cell; each sees the others as
`foreign` (the trace validator checks every coroutine's projection of a real multi-coroutine run).

Granularity: one step per atomic operation on an awaited word or an await counter, one per observable event of the
wrapper awaiter / executor / frame (await started, await_ready decided, submitted, Called, Dropped, resumed, local destroyed,
result published, frame destroyed).  Callbacks of one fulfilment are run in any order (the LIFO order is C06's matter).
Pre-check loads may be stale (over-approximated: see `obsOk`).
-/
namespace Yaclib.Coro

inductive Res where
  | val (n : Nat) | err | exc
  deriving DecidableEq, Repr

def Res.isFail : Res → Bool
  | .val _ => false
  | _ => true

/-- the awaiter of one `co_await` -/
inductive AKind where
  | single                    -- co_await future / shared future, Await(x): the coroutine itself is the callback
  | sticky                    -- AwaitSticky(x)
  | on (e : Nat)              -- AwaitOn(e, x)
  | multi                     -- Await(xs…)
  | multiSticky               -- AwaitSticky(xs…)
  | multiOn (e : Nat)         -- AwaitOn(e, xs…)
  | task                      -- co_await task / Await(task)
  | resched (e : Option Nat)  -- On(e) (some e) / Yield(), kYield (none: the coroutine's own executor)
  | current                   -- CurrentExecutor()
  deriving DecidableEq, Repr

structure Op where
  kind : AKind
  cells : List Nat
  /-- `await_resume` reads the awaited Result (`co_await future`, `co_await task`): value returned / failure rethrown -/
  get : Bool
  deriving DecidableEq, Repr

structure CellW where
  shared : Bool := false
  /-- the SharedFuture has other observers that may register callbacks -/
  others : Bool := false
  /-- a Task: fulfilled only after the awaiting coroutine started it -/
  lazy : Bool := false
  res : Res := .val 0
  /-- the executor stored in the awaited core (0 = the library's inline executor) -/
  exec0 : Nat := 0
  deriving DecidableEq, Repr

inductive Ret where
  | val (n : Nat) | throws
  deriving DecidableEq, Repr

structure Workload where
  prog : List Op
  cells : List CellW
  ret : Ret
  /-- a rethrown awaited failure is caught by the body (otherwise it escapes and ends the coroutine) -/
  catches : Bool
  locals : Nat
  deriving Repr

def Workload.cell (w : Workload) (j : Nat) : CellW := w.cells.getD j {}

/-- may other parties touch cell j (register callbacks, swap executors)? -/
def Workload.unsafeCell (w : Workload) (j : Nat) : Bool := (w.cell j).shared && (w.cell j).others

inductive Word where
  | open (mine : List Nat) (foreign : Bool)
  | result (walk : List Nat)     -- `walk`: my callbacks the fulfiller has not run yet
  deriving DecidableEq, Repr

def Word.isResult : Word → Bool
  | .result _ => true
  | _ => false

/-- what a load of the word can tell apart -/
inductive Obs where
  | empty | cbs | result
  deriving DecidableEq, Repr

def Word.obs : Word → Obs
  | .open [] false => .empty
  | .open _ _ => .cbs
  | .result _ => .result

/-- a load returns the current class or an older one; over-approximation of coherence:
    `result` only if it is there, `cbs` only if the word is not (any more) empty, `empty` always -/
def obsOk (wd : Word) (x : Obs) : Prop :=
  match x with
  | .result => wd.isResult = true
  | .cbs => wd.obs ≠ .empty
  | .empty => True

instance (wd : Word) (x : Obs) : Decidable (obsOk wd x) := by
  unfold obsOk; cases x <;> exact inferInstance

/-- **the await_ready predicate of AwaitSingleAwaiter / AwaitAwaiterBase**: `BaseCore::Ready()` = "the word is kResult".
    Until /repo commit c9c07bc it was `!Empty()` = `x != .empty` (defect D3: true as soon as *any* callback was registered on a
    SharedFuture, so a second awaiter did not suspend and read an unconstructed Result).  This is the only definition to switch;
    the proofs use it only through the two lemmas below. -/
def awaitReady (x : Obs) : Bool := x == .result

theorem awaitReady_true {x : Obs} (h : awaitReady x = true) : x = .result := by
  cases x <;> simp [awaitReady] at h ⊢

theorem awaitReady_false_ne_result {x : Obs} (h : awaitReady x = false) : x ≠ .result := by
  cases x <;> simp [awaitReady] at h ⊢

structure Cell where
  word : Word
  started : Bool
  /-- the executor currently stored in the core (`BaseCore::_executor`) -/
  cexec : Nat
  deriving DecidableEq, Repr

/-- per awaited object of the current awaiter -/
inductive CbSt where
  | todo       -- SetCallback not attempted yet
  | pending    -- registered, not run yet
  | failed     -- SetCallback returned false: already complete
  | fired      -- the callback was run
  deriving DecidableEq, Repr

/-- who resumes the coroutine -/
inductive Ctx where
  | inl               -- not suspended at all: continues on its own thread
  | cell (j : Nat)    -- inline, by the thread that completed cell j
  | exec (e : Nat)    -- `Call` by executor e
  deriving DecidableEq, Repr

inductive CPc where
  | idle                      -- running between co_awaits (and after the last one)
  | rdy                       -- single / sticky: the load of `Ready()` next
  | rdyL (x : Obs)            -- … loaded, `await_ready` decision next
  | reg (p : Nat)             -- SetCallback for the p-th awaited object: load next
  | cas (p : Nat)             -- … compare_exchange next
  | msub                      -- multi: `count.fetch_sub(n - wait_count)` next
  | mld                       -- multi await_ready: `Get(acquire)` next
  | mrd (v : Nat)             -- … loaded v, decision next
  | msusp                     -- multi await_suspend: `SubEqual(1)` next
  | tstore                    -- Task: `StoreCallback` + start next
  | curr                      -- CurrentExecutor: report next
  | subm (e : Nat)            -- about to be submitted to executor e (by itself or by a completing thread)
  | susp                      -- suspended, waiting for callbacks
  | queued (e : Nat)          -- submitted to e, neither Called nor Dropped yet
  | wake (c : Ctx)            -- being resumed: `await_resume` next
  | fin                       -- body left (co_return / escaped exception / Drop): Result stored, `SetResult` next
  | done                      -- Result published
  | gone                      -- frame destroyed
  deriving DecidableEq, Repr

/-- ghost: one entry per completed co_await -/
structure Rec where
  k : Nat                      -- index of the co_await in the program
  op : Op
  ctx : Ctx
  /-- every awaited object was complete (word = result, Result constructed) at that moment -/
  allDone : Bool
  /-- what `await_resume` read (`some none`: a Result that was never constructed) -/
  got : Option (Option Res)
  /-- the coroutine's executor when the co_await started / after it resumed -/
  exBefore : Nat
  exAfter : Nat
  deriving DecidableEq, Repr

structure State where
  w : Workload
  cells : Nat → Cell
  pc : CPc
  todo : List Op                 -- co_awaits not completed yet (head = current one when pc is inside an awaiter)
  k : Nat                        -- number of completed co_awaits
  st : List CbSt                 -- per awaited object of the current awaiter
  cnt : Nat                      -- the current awaiter's counter (AwaitEvent / AwaitOnEvent)
  exec : Nat                     -- PromiseType::_executor (0 = inline)
  ex0 : Nat                      -- ghost: `exec` when the current co_await started
  failed : Bool                  -- an awaited failure escaped the body
  live : Nat                     -- locals of the frame that are alive
  result : Option Res            -- the coroutine's own Result storage
  dropped : Bool                 -- ghost: completed through `Drop`
  -- ghost history
  resumed : List Rec
  submits : List (Nat × Nat)     -- (index of the co_await, executor)
  published : List Res
  frameDestroyed : Nat
  localDtors : Nat
  tasksReleased : List Nat       -- completed Tasks whose Task object was destroyed

def initCell (c : CellW) : Cell := { word := .open [] false, started := false, cexec := c.exec0 }

def init (w : Workload) : State :=
  { w := w, cells := fun j => initCell (w.cell j), pc := .idle, todo := w.prog, k := 0, st := [], cnt := 0, exec := 0, ex0 := 0,
    failed := false, live := w.locals, result := none, dropped := false,
    resumed := [], submits := [], published := [], frameDestroyed := 0, localDtors := 0, tasksReleased := [] }

inductive CasOut where
  | ok | retry | fail
  deriving DecidableEq, Repr

inductive Label where
  -- environment
  | pXchg (j : Nat)                    -- cell j is fulfilled: Store + exchange(kResult)
  | envPush (j : Nat)                  -- somebody else registers a callback on shared cell j
  | envSwap (j : Nat) (e : Nat)        -- the started Task j changes the executor stored in its core
  | fire (j : Nat) (p : Nat)           -- the fulfiller of cell j runs my callback p
  | exCall | exDrop                    -- the executor Calls / Drops the submitted coroutine
  -- the coroutine (or, for `submit`, the thread that completed the awaited object)
  | start                              -- co_await begins: the awaiter is constructed
  | rdLoad (x : Obs) | ready (b : Bool)
  | regLoad (p : Nat) (x : Obs) | cas (p : Nat) (o : CasOut)
  | msub | mload (v : Nat) | msuspend
  | tstore
  | submit (e : Nat)
  | resume (got : Option (Option Res)) (allDone : Bool)
  | current (e : Nat)
  | tdtor (j : Nat)                    -- ~Task of a Task that was only Await()ed (it completed and is still valid)
  | ldtor | ret | publish (r : Res) | fdtor
  deriving DecidableEq, Repr

/-! ### helpers -/

def upd (f : Nat → Cell) (j : Nat) (c : Cell) : Nat → Cell := fun i => if i = j then c else f i

def State.setWord (s : State) (j : Nat) (wd : Word) : State :=
  { s with cells := upd s.cells j { s.cells j with word := wd } }

def State.word (s : State) (j : Nat) : Word := (s.cells j).word

/-- the Result storage of cell j: constructed exactly when the word is `result` (Store is folded into the exchange) -/
def State.stored (s : State) (j : Nat) : Option Res :=
  if (s.word j).isResult then some (s.w.cell j).res else none

def allDoneOf (s : State) (op : Op) : Bool := op.cells.all fun j => (s.word j).isResult

def gotOf (s : State) (op : Op) : Option (Option Res) :=
  if op.get then (match op.cells.head? with
    | some j => some (s.stored j)
    | none => none) else none

/-- the awaited failure is rethrown by `await_resume` and not caught -/
def escapes (s : State) (op : Op) : Bool :=
  match gotOf s op with
  | some (some r) => r.isFail && !s.w.catches
  | _ => false

def finalRes (s : State) : Res :=
  if s.failed then .exc else match s.w.ret with
    | .val n => .val n
    | .throws => .exc

def isMulti : AKind → Bool
  | .multi | .multiSticky | .multiOn _ => true
  | _ => false

/-- kinds whose `await_ready` is `BaseCore::Ready()` (was `!Empty()`: D3) -/
def emptyBased : AKind → Bool
  | .single | .sticky => true
  | _ => false

/-- awaiters with a counter (AwaitOnEvent / AwaitEvent): a callback completes the awaiter only if its `SubEqual(1)` says so -/
def counted : AKind → Bool
  | .on _ | .multi | .multiSticky | .multiOn _ => true
  | _ => false

/-- the coroutine itself finds everything complete (SetCallback returned false / its own `SubEqual(1)` was the last):
    AwaitOn submits the coroutine to the executor, every other awaiter lets it continue (`await_suspend` returns false) -/
def selfDone : AKind → CPc
  | .on e | .multiOn e => .subm e
  | _ => .wake .inl

/-- the callback run by the fulfiller of cell j completes the awaiter: sticky awaiters submit the coroutine to its own
    executor, AwaitOn to the named one, the others resume it in place (`PromiseType::Here/Next`) -/
def cbDone (k : AKind) (j exec : Nat) : CPc :=
  match k with
  | .sticky | .multiSticky => .subm exec
  | .on e | .multiOn e => .subm e
  | _ => .wake (.cell j)

/-- after the last SetCallback of the awaiter -/
def afterReg (s : State) (op : Op) : State :=
  if isMulti op.kind then { s with pc := .msub }
  else if s.st[0]? = some .pending then { s with pc := .susp }
  else { s with pc := selfDone op.kind }

def regFrom (s : State) (op : Op) (p : Nat) : State :=
  if p < op.cells.length then { s with pc := .reg p } else afterReg s op

/-- AwaitOnAwaiter starts its counter at 1, the multi awaiters at n + 1 -/
def startCnt (op : Op) : Nat :=
  match op.kind with
  | .on _ => 1
  | _ => op.cells.length + 1

/-- On(e) / AwaitOn(e, …) store e in `PromiseType::_executor` before anything else -/
def startExec (k : AKind) (exec : Nat) : Nat :=
  match k with
  | .on e | .multiOn e | .resched (some e) => e
  | _ => exec

def doStart (s : State) (op : Op) : State :=
  let s0 := { s with st := List.replicate op.cells.length .todo, ex0 := s.exec, exec := startExec op.kind s.exec,
                     cnt := startCnt op }
  match op.kind with
  | .single | .sticky => { s0 with pc := .rdy }
  | .on _ | .multi | .multiSticky | .multiOn _ => regFrom s0 op 0
  | .task => { s0 with pc := .tstore }
  | .resched _ => { s0 with pc := .subm (startExec op.kind s.exec) }
  | .current => { s0 with pc := .curr }

def doReady (s : State) (b : Bool) : State :=
  if b then { s with pc := .wake .inl } else { s with pc := .reg 0 }

def doMReady (s : State) (b : Bool) : State :=
  if b then { s with pc := .wake .inl } else { s with pc := .msusp }

def regFail (s : State) (op : Op) (p : Nat) : State :=
  regFrom { s with st := s.st.set p .failed } op (p + 1)

/-- does the pre-check load of SetCallbackImpl let the CAS be tried? -/
def loadGoesOn (sh : Bool) (x : Obs) : Bool := if sh then x != .result else x == .empty

def doRegLoad (s : State) (op : Op) (p j : Nat) (x : Obs) : State :=
  if loadGoesOn (s.w.cell j).shared x then { s with pc := .cas p } else regFail s op p

def doCasOk (s : State) (op : Op) (p j : Nat) (l : List Nat) (f : Bool) : State :=
  regFrom { s.setWord j (.open (p :: l) f) with st := s.st.set p .pending } op (p + 1)

/-- MultiAwaitOnAwaiter has no `await_ready` load -/
def subNext : AKind → CPc
  | .multiOn _ => .msusp
  | _ => .mld

def doMsub (s : State) (op : Op) : State :=
  { s with cnt := s.cnt - (op.cells.length - (s.st.count CbSt.pending + s.st.count CbSt.fired)), pc := subNext op.kind }

def doMsuspend (s : State) (op : Op) : State :=
  if s.cnt = 1 then { s with cnt := s.cnt - 1, pc := selfDone op.kind } else { s with cnt := s.cnt - 1, pc := .susp }

/-- `StoreCallback` (a plain store: the Task has not started) and the start of the Task; a coroutine Task is started through
    `PromiseType::Next(caller)`, which copies the awaiting coroutine's executor into the Task (a Schedule()-headed Task keeps its
    own: covered by `envSwap`) -/
def doTstore (s : State) (j : Nat) : State :=
  { s with cells := upd s.cells j { word := .open [0] false, started := true, cexec := s.exec },
           st := s.st.set 0 .pending, pc := .susp }

/-- the fulfiller of cell j runs my callback p -/
def doFire (s : State) (op : Op) (j p : Nat) (walk : List Nat) : State :=
  let s1 := { s.setWord j (.result (walk.erase p)) with st := s.st.set p .fired }
  if counted op.kind then
    (if s.cnt = 1 then { s1 with cnt := s.cnt - 1, pc := cbDone op.kind j s.exec } else { s1 with cnt := s.cnt - 1 })
  else { s1 with pc := cbDone op.kind j s.exec }

def doSubmit (s : State) (e : Nat) : State :=
  { s with pc := .queued e, submits := s.submits ++ [(s.k, e)] }

def doDrop (s : State) : State :=
  { s with pc := .fin, result := some .err, dropped := true }

/-- resumption by the completing thread goes through `PromiseType::Here/Next(caller)`: the coroutine takes (a copy of) the
    executor stored in the completed core — "continue where the producer is"; the core keeps it (until 8ca0444 the two were
    swapped: D12) -/
def execAfter (s : State) (c : Ctx) : Nat :=
  match c with
  | .cell j => (s.cells j).cexec
  | _ => s.exec

def doResume (s : State) (op : Op) (rest : List Op) (c : Ctx) : State :=
  { s with pc := .idle, k := s.k + 1, todo := if escapes s op then [] else rest,
           failed := s.failed || escapes s op, exec := execAfter s c,
           resumed := s.resumed ++ [{ k := s.k, op := op, ctx := c, allDone := allDoneOf s op, got := gotOf s op,
                                       exBefore := s.ex0, exAfter := execAfter s c }] }

def doCurrent (s : State) (op : Op) (rest : List Op) : State :=
  { s with pc := .idle, k := s.k + 1, todo := rest,
           resumed := s.resumed ++ [{ k := s.k, op := op, ctx := .inl, allDone := true, got := none,
                                       exBefore := s.ex0, exAfter := s.exec }] }

def doLdtor (s : State) : State := { s with live := s.live - 1, localDtors := s.localDtors + 1 }
def doRet (s : State) : State := { s with pc := .fin, result := some (finalRes s) }
def doPublish (s : State) (r : Res) : State := { s with pc := .done, published := s.published ++ [r] }
def doFdtor (s : State) : State := { s with pc := .gone, frameDestroyed := s.frameDestroyed + 1 }

/-- who may change the executor stored in core j behind the coroutine's back: only a Task that was started (it may move to
    another executor while it runs; over-approximated: also afterwards) -/
def swapAllowed (s : State) (j : Nat) : Bool :=
  (s.w.cell j).lazy && (s.cells j).started

def doTdtor (s : State) (j : Nat) : State := { s with tasksReleased := s.tasksReleased ++ [j] }

inductive Step : State → Label → State → Prop where
  /-- Promise::Set / ~Promise / a coroutine's final_suspend: Store, exchange(kResult); my callbacks are run afterwards -/
  | pXchg (s : State) (j : Nat) (l : List Nat) (f : Bool) (hw : s.word j = .open l f)
      (hl : (s.w.cell j).lazy = false ∨ (s.cells j).started = true) :
      Step s (.pXchg j) (s.setWord j (.result l))
  | envPush (s : State) (j : Nat) (l : List Nat) (f : Bool) (hw : s.word j = .open l f) (hu : s.w.unsafeCell j = true) :
      Step s (.envPush j) (s.setWord j (.open l true))
  | envSwap (s : State) (j e : Nat) (hu : swapAllowed s j = true) :
      Step s (.envSwap j e) { s with cells := upd s.cells j { s.cells j with cexec := e } }
  | fire (s : State) (op : Op) (rest : List Op) (j p : Nat) (walk : List Nat) (ht : s.todo = op :: rest)
      (hw : s.word j = .result walk) (hp : p ∈ walk) : Step s (.fire j p) (doFire s op j p walk)
  | exCall (s : State) (e : Nat) (h : s.pc = .queued e) : Step s .exCall { s with pc := .wake (.exec e) }
  /-- PromiseType::Drop: `Store(StopTag)`, SetResult -/
  | exDrop (s : State) (e : Nat) (h : s.pc = .queued e) : Step s .exDrop (doDrop s)
  | start (s : State) (op : Op) (rest : List Op) (h : s.pc = .idle) (ht : s.todo = op :: rest) :
      Step s .start (doStart s op)
  /-- `await_ready` of AwaitSingleAwaiter / AwaitAwaiterBase: `Ready()` -/
  | rdLoad (s : State) (op : Op) (rest : List Op) (j : Nat) (x : Obs) (h : s.pc = .rdy) (ht : s.todo = op :: rest)
      (hj : op.cells[0]? = some j) (hx : obsOk (s.word j) x) : Step s (.rdLoad x) { s with pc := .rdyL x }
  | ready (s : State) (x : Obs) (h : s.pc = .rdyL x) : Step s (.ready (awaitReady x)) (doReady s (awaitReady x))
  /-- SetCallbackImpl: pre-check load … -/
  | regLoad (s : State) (op : Op) (rest : List Op) (p j : Nat) (x : Obs) (h : s.pc = .reg p) (ht : s.todo = op :: rest)
      (hj : op.cells[p]? = some j) (hx : obsOk (s.word j) x) : Step s (.regLoad p x) (doRegLoad s op p j x)
  /-- … and the CAS: strong `empty → cb` on a unique core, weak `next → cb` in a loop on a shared one -/
  | casOk (s : State) (op : Op) (rest : List Op) (p j : Nat) (l : List Nat) (f : Bool) (h : s.pc = .cas p)
      (ht : s.todo = op :: rest) (hj : op.cells[p]? = some j) (hw : s.word j = .open l f)
      (hu : (s.w.cell j).shared = true ∨ (l = [] ∧ f = false)) : Step s (.cas p .ok) (doCasOk s op p j l f)
  | casRetry (s : State) (op : Op) (rest : List Op) (p j : Nat) (h : s.pc = .cas p) (ht : s.todo = op :: rest)
      (hj : op.cells[p]? = some j) (hw : (s.word j).isResult = false) (hu : (s.w.cell j).shared = true) :
      Step s (.cas p .retry) s
  | casFail (s : State) (op : Op) (rest : List Op) (p j : Nat) (h : s.pc = .cas p) (ht : s.todo = op :: rest)
      (hj : op.cells[p]? = some j)
      (hw : ((s.w.cell j).shared = true ∧ (s.word j).isResult = true) ∨
            ((s.w.cell j).shared = false ∧ s.word j ≠ .open [] false)) : Step s (.cas p .fail) (regFail s op p)
  /-- SetCallbacksStatic/Dynamic: `count.fetch_sub(n - wait_count, relaxed)` -/
  | msub (s : State) (op : Op) (rest : List Op) (h : s.pc = .msub) (ht : s.todo = op :: rest) :
      Step s .msub (doMsub s op)
  /-- MultiAwaitAwaiter::await_ready: `Get(acquire) == 1` (the load may be stale: the counter only decreases) -/
  | mload (s : State) (v : Nat) (h : s.pc = .mld) (hv : s.cnt ≤ v) : Step s (.mload v) { s with pc := .mrd v }
  | mready (s : State) (v : Nat) (h : s.pc = .mrd v) : Step s (.ready (decide (v = 1))) (doMReady s (decide (v = 1)))
  /-- await_suspend of the multi awaiters: `SubEqual(1)` -/
  | msuspend (s : State) (op : Op) (rest : List Op) (h : s.pc = .msusp) (ht : s.todo = op :: rest) :
      Step s .msuspend (doMsuspend s op)
  | tstore (s : State) (op : Op) (rest : List Op) (j : Nat) (h : s.pc = .tstore) (ht : s.todo = op :: rest)
      (hj : op.cells[0]? = some j) : Step s .tstore (doTstore s j)
  | submit (s : State) (e : Nat) (h : s.pc = .subm e) : Step s (.submit e) (doSubmit s e)
  /-- `await_resume` -/
  | resume (s : State) (op : Op) (rest : List Op) (c : Ctx) (h : s.pc = .wake c) (ht : s.todo = op :: rest) :
      Step s (.resume (gotOf s op) (allDoneOf s op)) (doResume s op rest c)
  | current (s : State) (op : Op) (rest : List Op) (h : s.pc = .curr) (ht : s.todo = op :: rest) :
      Step s (.current s.exec) (doCurrent s op rest)
  /-- `~Task` of a Task that completed (it was started by `co_await Await(task)`) and is still valid: `Valid() && !Ready()` is
      false, so nothing is cancelled — the Task just releases its core (since 2690a63; before, it was cancelled: `StoreCallback`
      over the `result` word, `Drop` of the finished coroutine, a second `exchange`: D13).  The destructor of a Task that has not
      completed (Cancel) is C12's matter and not a step of this model. -/
  | tdtor (s : State) (j : Nat) (h : s.pc = .idle) (hl : (s.w.cell j).lazy = true) (hr : (s.word j).isResult = true) :
      Step s (.tdtor j) (doTdtor s j)
  /-- co_return (`return_value` = Store, then the scopes are left) / an exception leaves the body (the scopes are left, then
      `unhandled_exception` = Store): the body is over, the Result is determined -/
  | ret (s : State) (h : s.pc = .idle) (ht : s.todo = []) : Step s .ret (doRet s)
  /-- a local of the frame is destroyed: leaving the body, or `handle.destroy()` of a suspended (dropped) coroutine -/
  | ldtor (s : State) (h : (s.pc = .fin ∧ s.dropped = false) ∨ s.pc = .done) (hl : 0 < s.live) : Step s .ldtor (doLdtor s)
  /-- final_suspend (all locals are gone) / Drop (the coroutine stays suspended): SetResult publishes the coroutine's Result -/
  | publish (s : State) (r : Res) (h : s.pc = .fin) (hr : s.result = some r) (hl : s.dropped = true ∨ s.live = 0) :
      Step s (.publish r) (doPublish s r)
  /-- the state's deleter destroys the frame -/
  | fdtor (s : State) (h : s.pc = .done) (hl : s.live = 0) : Step s .fdtor (doFdtor s)

inductive Reachable (w : Workload) : State → Prop where
  | init : Reachable w (init w)
  | step {s l s'} : Reachable w s → Step s l s' → Reachable w s'

/-- executable transition function used by the trace validator -/
def next (s : State) : Label → Option State
  | .pXchg j =>
      match s.word j with
      | .open l _ =>
          if (s.w.cell j).lazy = false ∨ (s.cells j).started = true then some (s.setWord j (.result l)) else none
      | .result _ => none
  | .envPush j =>
      match s.word j with
      | .open l _ => if s.w.unsafeCell j = true then some (s.setWord j (.open l true)) else none
      | .result _ => none
  | .envSwap j e =>
      if swapAllowed s j = true then some { s with cells := upd s.cells j { s.cells j with cexec := e } } else none
  | .fire j p =>
      match s.todo, s.word j with
      | op :: _, .result walk => if p ∈ walk then some (doFire s op j p walk) else none
      | _, _ => none
  | .exCall =>
      match s.pc with
      | .queued e => some { s with pc := .wake (.exec e) }
      | _ => none
  | .exDrop =>
      match s.pc with
      | .queued _ => some (doDrop s)
      | _ => none
  | .start =>
      match s.todo with
      | op :: _ => if s.pc = .idle then some (doStart s op) else none
      | [] => none
  | .rdLoad x =>
      match s.todo with
      | op :: _ =>
          match op.cells[0]? with
          | some j => if s.pc = .rdy ∧ obsOk (s.word j) x then some { s with pc := .rdyL x } else none
          | none => none
      | [] => none
  | .ready b =>
      match s.pc with
      | .rdyL x => if b = awaitReady x then some (doReady s b) else none
      | .mrd v => if b = decide (v = 1) then some (doMReady s b) else none
      | _ => none
  | .regLoad p x =>
      match s.todo with
      | op :: _ =>
          match op.cells[p]? with
          | some j => if s.pc = .reg p ∧ obsOk (s.word j) x then some (doRegLoad s op p j x) else none
          | none => none
      | [] => none
  | .cas p o =>
      match s.todo with
      | op :: _ =>
          match op.cells[p]? with
          | some j =>
              if s.pc = .cas p then
                match o with
                | .ok =>
                    match s.word j with
                    | .open l f =>
                        if (s.w.cell j).shared = true ∨ (l = [] ∧ f = false) then some (doCasOk s op p j l f) else none
                    | .result _ => none
                | .retry => if (s.word j).isResult = false ∧ (s.w.cell j).shared = true then some s else none
                | .fail =>
                    if ((s.w.cell j).shared = true ∧ (s.word j).isResult = true) ∨
                       ((s.w.cell j).shared = false ∧ s.word j ≠ .open [] false) then some (regFail s op p) else none
              else none
          | none => none
      | [] => none
  | .msub =>
      match s.todo with
      | op :: _ => if s.pc = .msub then some (doMsub s op) else none
      | [] => none
  | .mload v => if s.pc = .mld ∧ s.cnt ≤ v then some { s with pc := .mrd v } else none
  | .msuspend =>
      match s.todo with
      | op :: _ => if s.pc = .msusp then some (doMsuspend s op) else none
      | [] => none
  | .tstore =>
      match s.todo with
      | op :: _ =>
          match op.cells[0]? with
          | some j => if s.pc = .tstore then some (doTstore s j) else none
          | none => none
      | [] => none
  | .submit e => if s.pc = .subm e then some (doSubmit s e) else none
  | .resume got ad =>
      match s.todo, s.pc with
      | op :: rest, .wake c => if got = gotOf s op ∧ ad = allDoneOf s op then some (doResume s op rest c) else none
      | _, _ => none
  | .current e =>
      match s.todo with
      | op :: rest => if s.pc = .curr ∧ e = s.exec then some (doCurrent s op rest) else none
      | [] => none
  | .tdtor j =>
      if s.pc = .idle ∧ (s.w.cell j).lazy = true ∧ (s.word j).isResult = true then some (doTdtor s j) else none
  | .ldtor => if ((s.pc = .fin ∧ s.dropped = false) ∨ s.pc = .done) ∧ 0 < s.live then some (doLdtor s) else none
  | .ret => if s.pc = .idle ∧ s.todo = [] then some (doRet s) else none
  | .publish r =>
      if s.pc = .fin ∧ s.result = some r ∧ (s.dropped = true ∨ s.live = 0) then some (doPublish s r) else none
  | .fdtor => if s.pc = .done ∧ s.live = 0 then some (doFdtor s) else none

theorem next_sound {s : State} {l : Label} {s' : State} (h : next s l = some s') : Step s l s' := by
  cases l <;> simp only [next] at h <;> (repeat' split at h) <;> cases h <;> (repeat cases ‹_ ∧ _›) <;>
    (try simp only [Bool.not_eq_true] at *) <;> subst_vars <;> constructor <;> first | assumption | simp_all

end Yaclib.Coro
