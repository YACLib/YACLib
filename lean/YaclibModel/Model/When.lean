/-
C09 / C10 — the generic combinator machinery `yaclib::when::When` with its strategies.

Written from /repo (as it is; defect D2 of the pinned tree was fixed by /repo 2b9a400 and the model follows the fixed code):
  include/yaclib/async/when/when.hpp   `When` (both forms), `StaticCombinator/DynamicCombinator/SingleCombinator::{Set,SetCore}`
                                       (the registration loop), `CombinatorCallback::Impl`, `Consume/ConsumeImpl`
  include/yaclib/async/when/all.hpp    `All<None>` (everything in the destructor), `All<FirstFail>` (done flag, destructor)
  include/yaclib/async/when/all_tuple.hpp  `AllTuple<None>`, `AllTuple<FirstFail>` (`else if (result)`: only values are stored)
  include/yaclib/async/when/join.hpp   `Join<None>`, `Join<FirstFail>`
  include/yaclib/async/when/any.hpp    `Any<None>` (flag), `Any<FirstFail>` (empty/error/value + saved error published by the
                                       destructor), `Any<LastFail>` (packed counter `2*count`, low bit = done)
  util/helper.hpp + atomic_counter.hpp the combinator's reference count (`MakeShared(count, …)`, `DecRef`)

Each input's one-word hand-off is abstracted by its proven C01 / C06 interface: the combinator callback of input `i` is
invoked exactly once, either by the registering thread (the input was already complete: `SetCallback` returned false,
label `regSet i false`) or by the completing thread after the callback was installed (`regSet i true` … `fire i`).

Granularity: one step per atomic operation (strategy word `load` / `exchange` / `compare_exchange_strong` / `fetch_sub`,
the combinator's `fetch_sub`, the output promise's `Set` — an exchange on the output core —, the release of an input
core) — thread-local code is folded into the FOLLOWING step (the slot write of `AllTuple`, the `error = …` of
`Any<FirstFail>` are folded into the `DecRef` that follows them).
Pre-check loads may be stale (any older value of the modification order).
-/
namespace Yaclib.When

/-- what an input's Result holds: a value, an error or an exception (the payload identifies the input it came from) -/
inductive Res where
  | val (v : Nat) | err (c : Nat) | exc (c : Nat)
  deriving DecidableEq, Repr

def ok : Res → Bool
  | .val _ => true
  | _ => false

/-- the nine strategies that exist (`LastFail` is rejected by a static_assert for All / AllTuple / Join) -/
inductive Strat where
  | allVec (ff : Bool)     -- when::All      (vector output; Owned cores)        None / FirstFail
  | allTuple (ff : Bool)   -- when::AllTuple (tuple output; Managed, Static)     None / FirstFail
  | join (ff : Bool)       -- when::Join     (void output; Managed)              None / FirstFail
  | anyNone | anyFF | anyLF
  deriving DecidableEq, Repr

/-- CorePolicy::Managed: the combinator retires (releases) the input before / instead of `Consume` -/
def Strat.managed : Strat → Bool
  | .allVec _ => false
  | .allTuple _ => true
  | .join _ => true
  | .anyNone => true
  | .anyFF => true
  | .anyLF => true

/-- strategies whose word is the `atomic_bool _done` -/
def Strat.usesFlag : Strat → Bool
  | .allVec true | .allTuple true | .join true | .anyNone => true
  | _ => false

structure Workload where
  strat : Strat
  inputs : List Res          -- outcome of input i; n = inputs.length
  deriving Repr

def Workload.n (w : Workload) : Nat := w.inputs.length
def Workload.inp (w : Workload) (i : Nat) : Res := w.inputs.getD i (.err 0)

/-- what the output promise is fulfilled with -/
inductive OutVal where
  | vec (l : List (Option Res))   -- vector / tuple, slot j = `none` if never written (default constructed)
  | unit                          -- Join: Set()
  | one (r : Res)                 -- a single input's outcome (the failure for All/Join<FirstFail>, the winner for Any)
  | broken                        -- `~Promise` on a still valid promise (nobody set it)
  deriving DecidableEq, Repr

inductive St3 where
  | empty | error | value
  deriving DecidableEq, Repr

def St3.le : St3 → St3 → Bool
  | .empty, _ => true
  | .error, .empty => false
  | .error, _ => true
  | .value, .value => true
  | .value, _ => false

/-- per input: where the (unique) activity that consumes it stands -/
inductive IPc where
  | unreg                 -- the registration loop has not reached this input
  | pending               -- `SetCallback` installed the combinator callback; the input has not completed yet
  | retire                -- callback entered; Managed: about to `core.Retire()` / `core.DecRef()` (releases the input)
  | load                  -- about to read the strategy word (pre-check)
  | rmw                   -- about to do the deciding read-modify-write on the strategy word
  | setOut (o : OutVal)   -- won: about to `std::move(_p).Set(o)`
  | dec (store : Bool)    -- about to `_self->DecRef()`; `store`: a plain write of the own Result precedes it
  | dtorRel (j : Nat)     -- dropped the last reference, inside `~All`: about to retire / release core j
  | dtorSet               -- inside the strategy destructor (or `~Promise`): about to publish the output
  | boom                  -- inside `Consume`: about to throw out of a noexcept function (unreachable since the D2 fix)
  | dboom                 -- inside the strategy destructor: about to throw
  | done
  deriving DecidableEq, Repr

def holding : IPc → Bool
  | .unreg => true
  | .pending => true
  | .retire => true
  | .load => true
  | .rmw => true
  | .setOut _ => true
  | .dec _ => true
  | .dtorRel _ => false
  | .dtorSet => false
  | .boom => true
  | .dboom => false
  | .done => false

def inDtor : IPc → Bool
  | .unreg => false
  | .pending => false
  | .retire => false
  | .load => false
  | .rmw => false
  | .setOut _ => false
  | .dec _ => false
  | .dtorRel _ => true
  | .dtorSet => true
  | .boom => false
  | .dboom => true
  | .done => false

/-- the callback has been entered -/
def entered : IPc → Bool
  | .unreg => false
  | .pending => false
  | .retire => true
  | .load => true
  | .rmw => true
  | .setOut _ => true
  | .dec _ => true
  | .dtorRel _ => true
  | .dtorSet => true
  | .boom => true
  | .dboom => true
  | .done => true

/-- the consumption is past its decision on the strategy word -/
def past : IPc → Bool
  | .unreg => false
  | .pending => false
  | .retire => false
  | .load => false
  | .rmw => false
  | .setOut _ => true
  | .dec _ => true
  | .dtorRel _ => true
  | .dtorSet => true
  | .boom => true
  | .dboom => true
  | .done => true

structure State where
  reg : Nat                      -- loop index of the registration loop
  busy : Option Nat              -- the input the registering thread is consuming inline right now
  pc : Nat → IPc
  count : Nat                    -- combinator reference count
  flag : Bool                    -- `_done`
  st3 : St3                      -- Any<FirstFail>::_state
  lf : Nat                       -- Any<LastFail>::_state (a size_t: arithmetic modulo 2^64)
  saved : Option Res             -- Any<FirstFail>::error
  slots : Nat → Option Res       -- AllTuple::_tuple / the vector being built by ~All
  relIdx : Nat                   -- loop index of the loop over `_cores` in `~All`
  pValid : Bool                  -- `_p.Valid()`
  crashed : Bool                 -- an exception escaped (std::terminate / propagated out of WhenAll)
  -- ghost history
  outSet : List OutVal           -- every `Set` of the output promise
  consumed : Nat → Nat           -- callback entries per input
  released : Nat → Nat           -- releases per input
  win : Option Nat               -- the input whose RMW elected it to set the output
  errBy : Option Nat             -- Any<FirstFail>: the input whose CAS empty→error succeeded
  dt : Option Nat                -- the input whose consumption dropped the last combinator reference
  rmwDone : Nat → Bool           -- the input has done its RMW on the strategy word
  rmwOrder : List Nat            -- inputs in the order of their RMWs on the strategy word (linearisation order)

def two64 : Nat := 18446744073709551616

def init (w : Workload) : State :=
  { reg := 0, busy := none, pc := fun _ => .unreg, count := w.n, flag := false, st3 := .empty, lf := 2 * w.n % two64,
    saved := none, slots := fun _ => none, relIdx := 0, pValid := true, crashed := false,
    outSet := [], consumed := fun _ => 0, released := fun _ => 0, win := none, errBy := none, dt := none,
    rmwDone := fun _ => false, rmwOrder := [] }

def upd {α : Type} (f : Nat → α) (i : Nat) (x : α) : Nat → α := fun j => if j = i then x else f j

/-- where `Consume` goes after the input was retired (Managed) / straight away (Owned) -/
def afterRetire (st : Strat) (r : Res) : IPc :=
  match st with
  | .allVec false => .dec false                            -- ConsumePolicy::None
  | .allVec true => if ok r then .dec false else .load
  | .allTuple false => .dec true                           -- `std::get<Index>(_tuple) = result`
  | .allTuple true => if ok r then .dec true else .load    -- `… = result.Value()` (else branch) / the flag
  | .join false => .dec false
  | .join true => if ok r then .dec false else .load
  | .anyNone | .anyFF | .anyLF => .load

def consumeStart (st : Strat) (r : Res) : IPc :=
  if st.managed then .retire else afterRetire st r

/-- the flag was already set (seen by the load or returned by the exchange): a failing consumption that lost the race does
    nothing more.  (Up to /repo 2b9a400 `AllTuple<FirstFail>::Consume` ran `result.Value()` here — defect D2 — and the model
    had `lose (.allTuple true) = .boom`.) -/
def lose (_st : Strat) : IPc := .dec false

def finish (s : State) (i : Nat) : State :=
  { s with pc := upd s.pc i .done, busy := if s.busy = some i then none else s.busy }

def setPc (s : State) (i : Nat) (p : IPc) : State := { s with pc := upd s.pc i p }

/-- the thread that dropped the last reference runs `~Strategy` (then `~Promise`) and frees the combinator -/
def dtorStart (st : Strat) (pValid : Bool) : Option IPc :=
  match st with
  | .allVec _ => some (.dtorRel 0)
  | .allTuple false | .join false => some .dtorSet
  | _ => if pValid then some .dtorSet else none

def doRegSet (w : Workload) (s : State) (i : Nat) (okb : Bool) : State :=
  if okb then { s with reg := i + 1, pc := upd s.pc i .pending }
  else { s with reg := i + 1, pc := upd s.pc i (consumeStart w.strat (w.inp i)), busy := some i,
                consumed := upd s.consumed i (s.consumed i + 1) }

def doFire (w : Workload) (s : State) (i : Nat) : State :=
  { s with pc := upd s.pc i (consumeStart w.strat (w.inp i)), consumed := upd s.consumed i (s.consumed i + 1) }

def doRetire (w : Workload) (s : State) (i : Nat) : State :=
  { s with pc := upd s.pc i (afterRetire w.strat (w.inp i)), released := upd s.released i (s.released i + 1) }

def doLoadFlag (w : Workload) (s : State) (i : Nat) (b : Bool) : State :=
  setPc s i (if b then lose w.strat else .rmw)

def doXchgFlag (w : Workload) (s : State) (i : Nat) : State :=
  if s.flag then
    { s with pc := upd s.pc i (lose w.strat), rmwDone := upd s.rmwDone i true, rmwOrder := s.rmwOrder ++ [i] }
  else
    { s with pc := upd s.pc i (.setOut (.one (w.inp i))), flag := true, win := some i,
             rmwDone := upd s.rmwDone i true, rmwOrder := s.rmwOrder ++ [i] }

def doLoad3 (w : Workload) (s : State) (i : Nat) (x : St3) : State :=
  if ok (w.inp i) then setPc s i (if x = .value then .dec false else .rmw)
  else setPc s i (if x = .empty then .rmw else .dec false)

def doXchg3 (w : Workload) (s : State) (i : Nat) : State :=
  if s.st3 = .value then
    { s with pc := upd s.pc i (.dec false), rmwDone := upd s.rmwDone i true, rmwOrder := s.rmwOrder ++ [i] }
  else
    { s with pc := upd s.pc i (.setOut (.one (w.inp i))), st3 := .value, win := some i,
             rmwDone := upd s.rmwDone i true, rmwOrder := s.rmwOrder ++ [i] }

def doCas3 (s : State) (i : Nat) : State :=
  if s.st3 = .empty then
    { s with pc := upd s.pc i (.dec true), st3 := .error, errBy := some i,
             rmwDone := upd s.rmwDone i true, rmwOrder := s.rmwOrder ++ [i] }
  else
    { s with pc := upd s.pc i (.dec false), rmwDone := upd s.rmwDone i true, rmwOrder := s.rmwOrder ++ [i] }

def doLoadLf (s : State) (i : Nat) (d : Bool) : State :=
  setPc s i (if d then .dec false else .rmw)

def doXchgLf (w : Workload) (s : State) (i : Nat) : State :=
  if s.lf % 2 = 0 then
    { s with pc := upd s.pc i (.setOut (.one (w.inp i))), lf := 1, win := some i,
             rmwDone := upd s.rmwDone i true, rmwOrder := s.rmwOrder ++ [i] }
  else
    { s with pc := upd s.pc i (.dec false), lf := 1, rmwDone := upd s.rmwDone i true, rmwOrder := s.rmwOrder ++ [i] }

/-- `fetch_sub(2)` on a size_t -/
def subWrap (x : Nat) : Nat := (x + two64 - 2) % two64

def doFsubLf (w : Workload) (s : State) (i : Nat) : State :=
  if s.lf = 2 then
    { s with pc := upd s.pc i (.setOut (.one (w.inp i))), lf := subWrap s.lf, win := some i,
             rmwDone := upd s.rmwDone i true, rmwOrder := s.rmwOrder ++ [i] }
  else
    { s with pc := upd s.pc i (.dec false), lf := subWrap s.lf,
             rmwDone := upd s.rmwDone i true, rmwOrder := s.rmwOrder ++ [i] }

def doSetOut (s : State) (i : Nat) (o : OutVal) : State :=
  { s with pc := upd s.pc i (.dec false), outSet := s.outSet ++ [o], pValid := false }

/-- the plain write folded into the DecRef: `std::get<Index>(_tuple) = …` (AllTuple) / `error = …` (Any<FirstFail>) -/
def storeSlots (w : Workload) (s : State) (i : Nat) (store : Bool) : Nat → Option Res :=
  if store = true ∧ (w.strat = .allTuple false ∨ w.strat = .allTuple true) then upd s.slots i (some (w.inp i)) else s.slots

def storeSaved (w : Workload) (s : State) (i : Nat) (store : Bool) : Option Res :=
  if store = true ∧ w.strat = .anyFF then some (w.inp i) else s.saved

def doDec (w : Workload) (s : State) (i : Nat) (store : Bool) : State :=
  let s2 := { s with count := s.count - 1, dt := if s.count = 1 then some i else s.dt,
                     slots := storeSlots w s i store, saved := storeSaved w s i store }
  if s.count = 1 then
    match dtorStart w.strat s.pValid with
    | some p => setPc s2 i p
    | none => finish s2 i
  else finish s2 i

/-- `~All`: one iteration of the loop over `_cores` -/
def doDtorRel (w : Workload) (s : State) (i j : Nat) : State :=
  let s1 := { s with released := upd s.released j (s.released j + 1), relIdx := j + 1 }
  match w.strat with
  | .allVec true =>
      if s.pValid then
        if ok (w.inp j) then
          setPc { s1 with slots := upd s.slots j (some (w.inp j)) } i (if j + 1 < w.n then .dtorRel (j + 1) else .dtorSet)
        else setPc s1 i .dboom                   -- `core->Retire().Value()` on a failure, inside a destructor
      else if j + 1 < w.n then setPc s1 i (.dtorRel (j + 1)) else finish s1 i
  | _ =>
      setPc { s1 with slots := upd s.slots j (some (w.inp j)) } i (if j + 1 < w.n then .dtorRel (j + 1) else .dtorSet)

/-- what the destructor publishes; `none`: it throws (`error` still Empty) -/
def dtorOut (w : Workload) (s : State) : Option OutVal :=
  match w.strat with
  | .allVec _ | .allTuple _ => some (.vec ((List.range w.n).map s.slots))
  | .join _ => some .unit
  | .anyFF => s.saved.map .one
  | .anyNone | .anyLF => some .broken

def doDtorSet (s : State) (i : Nat) (o : OutVal) : State :=
  finish { s with outSet := s.outSet ++ [o], pValid := false } i

/-- one line of a trace -/
inductive Label where
  | regSet (i : Nat) (okb : Bool)     -- `core.SetCallback(callback)` of input i returned okb
  | fire (i : Nat)                    -- the completing thread takes the installed callback out of input i and enters it
  | retire (i : Nat)                  -- release of input i by its own consumption (Managed)
  | loadFlag (i : Nat) (b : Bool)
  | xchgFlag (i : Nat) (old : Bool)
  | load3 (i : Nat) (x : St3)
  | xchg3 (i : Nat) (old : St3)
  | cas3 (i : Nat) (okb : Bool)
  | loadLf (i : Nat) (d : Bool)       -- d = low bit of the value read
  | xchgLf (i : Nat) (old : Nat)
  | fsubLf (i : Nat) (old : Nat)
  | setOut (i : Nat) (o : OutVal)
  | dec (i : Nat) (old : Nat)
  | dtorRel (i j : Nat)
  | dtorSet (i : Nat) (o : OutVal)
  | dtorThrow (i : Nat)               -- the destructor of Any<FirstFail> reads an Empty `error`
  | crash (i : Nat)
  deriving DecidableEq, Repr

inductive Step (w : Workload) : State → Label → State → Prop where
  /-- registration loop, iteration i: (`Register`,) `SetCallback` -/
  | regSet (s : State) (i : Nat) (okb : Bool) (hc : s.crashed = false) (hb : s.busy = none) (hr : s.reg = i) (hn : i < w.n) :
      Step w s (.regSet i okb) (doRegSet w s i okb)
  | fire (s : State) (i : Nat) (hc : s.crashed = false) (hp : s.pc i = .pending) : Step w s (.fire i) (doFire w s i)
  | retire (s : State) (i : Nat) (hc : s.crashed = false) (hp : s.pc i = .retire) : Step w s (.retire i) (doRetire w s i)
  /-- `_done.load(relaxed)`: may still read false after the flag was set -/
  | loadFlag (s : State) (i : Nat) (b : Bool) (hc : s.crashed = false) (hp : s.pc i = .load) (hs : w.strat.usesFlag = true)
      (hb : b = true → s.flag = true) : Step w s (.loadFlag i b) (doLoadFlag w s i b)
  | xchgFlag (s : State) (i : Nat) (hc : s.crashed = false) (hp : s.pc i = .rmw) (hs : w.strat.usesFlag = true) :
      Step w s (.xchgFlag i s.flag) (doXchgFlag w s i)
  /-- Any<FirstFail>: `_state.load(relaxed)`: any value not newer than the current one -/
  | load3 (s : State) (i : Nat) (x : St3) (hc : s.crashed = false) (hp : s.pc i = .load) (hs : w.strat = .anyFF)
      (hx : x.le s.st3 = true) : Step w s (.load3 i x) (doLoad3 w s i x)
  | xchg3 (s : State) (i : Nat) (hc : s.crashed = false) (hp : s.pc i = .rmw) (hs : w.strat = .anyFF) (hv : ok (w.inp i) = true) :
      Step w s (.xchg3 i s.st3) (doXchg3 w s i)
  | cas3 (s : State) (i : Nat) (hc : s.crashed = false) (hp : s.pc i = .rmw) (hs : w.strat = .anyFF) (hv : ok (w.inp i) = false) :
      Step w s (.cas3 i (decide (s.st3 = .empty))) (doCas3 s i)
  /-- Any<LastFail>: `_state.load(acquire)`; only the done bit matters; a stale read cannot invent it -/
  | loadLf (s : State) (i : Nat) (d : Bool) (hc : s.crashed = false) (hp : s.pc i = .load) (hs : w.strat = .anyLF)
      (hd : d = true → s.lf % 2 = 1) : Step w s (.loadLf i d) (doLoadLf s i d)
  | xchgLf (s : State) (i : Nat) (hc : s.crashed = false) (hp : s.pc i = .rmw) (hs : w.strat = .anyLF) (hv : ok (w.inp i) = true) :
      Step w s (.xchgLf i s.lf) (doXchgLf w s i)
  | fsubLf (s : State) (i : Nat) (hc : s.crashed = false) (hp : s.pc i = .rmw) (hs : w.strat = .anyLF) (hv : ok (w.inp i) = false) :
      Step w s (.fsubLf i s.lf) (doFsubLf w s i)
  | setOut (s : State) (i : Nat) (o : OutVal) (hc : s.crashed = false) (hp : s.pc i = .setOut o) :
      Step w s (.setOut i o) (doSetOut s i o)
  /-- `_self->DecRef()` (preceded by the folded plain store) -/
  | dec (s : State) (i : Nat) (store : Bool) (hc : s.crashed = false) (hp : s.pc i = .dec store) :
      Step w s (.dec i s.count) (doDec w s i store)
  | dtorRel (s : State) (i j : Nat) (hc : s.crashed = false) (hp : s.pc i = .dtorRel j) :
      Step w s (.dtorRel i j) (doDtorRel w s i j)
  | dtorSet (s : State) (i : Nat) (o : OutVal) (hc : s.crashed = false) (hp : s.pc i = .dtorSet) (ho : dtorOut w s = some o) :
      Step w s (.dtorSet i o) (doDtorSet s i o)
  | dtorThrow (s : State) (i : Nat) (hc : s.crashed = false) (hp : s.pc i = .dtorSet) (ho : dtorOut w s = none) :
      Step w s (.dtorThrow i) (setPc s i .dboom)
  | crash (s : State) (i : Nat) (hc : s.crashed = false) (hp : s.pc i = .boom ∨ s.pc i = .dboom) :
      Step w s (.crash i) { s with crashed := true }

inductive Reachable (w : Workload) : State → Prop where
  | init : Reachable w (init w)
  | step {s l s'} : Reachable w s → Step w s l s' → Reachable w s'

/-- executable transition function used by the trace validator (`ymdriver`) -/
def next (w : Workload) (s : State) : Label → Option State
  | .regSet i okb =>
      if s.crashed = false ∧ s.busy = none ∧ s.reg = i ∧ i < w.n then some (doRegSet w s i okb) else none
  | .fire i => if s.crashed = false ∧ s.pc i = .pending then some (doFire w s i) else none
  | .retire i => if s.crashed = false ∧ s.pc i = .retire then some (doRetire w s i) else none
  | .loadFlag i b =>
      if s.crashed = false ∧ s.pc i = .load ∧ w.strat.usesFlag = true ∧ (b = true → s.flag = true)
      then some (doLoadFlag w s i b) else none
  | .xchgFlag i old =>
      if s.crashed = false ∧ s.pc i = .rmw ∧ w.strat.usesFlag = true ∧ old = s.flag then some (doXchgFlag w s i) else none
  | .load3 i x =>
      if s.crashed = false ∧ s.pc i = .load ∧ w.strat = .anyFF ∧ x.le s.st3 = true then some (doLoad3 w s i x) else none
  | .xchg3 i old =>
      if s.crashed = false ∧ s.pc i = .rmw ∧ w.strat = .anyFF ∧ ok (w.inp i) = true ∧ old = s.st3
      then some (doXchg3 w s i) else none
  | .cas3 i okb =>
      if s.crashed = false ∧ s.pc i = .rmw ∧ w.strat = .anyFF ∧ ok (w.inp i) = false ∧ okb = decide (s.st3 = .empty)
      then some (doCas3 s i) else none
  | .loadLf i d =>
      if s.crashed = false ∧ s.pc i = .load ∧ w.strat = .anyLF ∧ (d = true → s.lf % 2 = 1) then some (doLoadLf s i d) else none
  | .xchgLf i old =>
      if s.crashed = false ∧ s.pc i = .rmw ∧ w.strat = .anyLF ∧ ok (w.inp i) = true ∧ old = s.lf
      then some (doXchgLf w s i) else none
  | .fsubLf i old =>
      if s.crashed = false ∧ s.pc i = .rmw ∧ w.strat = .anyLF ∧ ok (w.inp i) = false ∧ old = s.lf
      then some (doFsubLf w s i) else none
  | .setOut i o => if s.crashed = false ∧ s.pc i = .setOut o then some (doSetOut s i o) else none
  | .dec i old =>
      if s.crashed = false ∧ old = s.count then
        match s.pc i with
        | .dec store => some (doDec w s i store)
        | _ => none
      else none
  | .dtorRel i j => if s.crashed = false ∧ s.pc i = .dtorRel j then some (doDtorRel w s i j) else none
  | .dtorSet i o =>
      if s.crashed = false ∧ s.pc i = .dtorSet ∧ dtorOut w s = some o then some (doDtorSet s i o) else none
  | .dtorThrow i =>
      if s.crashed = false ∧ s.pc i = .dtorSet ∧ dtorOut w s = none then some (setPc s i .dboom) else none
  | .crash i => if s.crashed = false ∧ (s.pc i = .boom ∨ s.pc i = .dboom) then some { s with crashed := true } else none

theorem next_sound {w : Workload} {s : State} {l : Label} {s' : State} (h : next w s l = some s') : Step w s l s' := by
  cases l <;> simp only [next] at h <;> (repeat' split at h) <;> cases h <;> (repeat cases ‹_ ∧ _›) <;>
    (try simp only [Bool.not_eq_true] at *) <;> subst_vars <;> constructor <;> first | assumption | simp_all

end Yaclib.When
