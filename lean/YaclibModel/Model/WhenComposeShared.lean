/-
`WhenS` — the combinator model (Model/When.lean) composed with n instances of the SharedFuture model of C06
(Model/Shared.lean), one per input; the shared counterpart of `WhenU` (Model/WhenCompose.lean).

Instance i has the fulfiller `SharedPromise::Set(outcome of input i)`, observer 0 = the combinator's registration of input i
(program `[attach .retire]`: `core.SetCallback(callback)` with a callback that owns the reference the future had), and ANY number
of other observers with arbitrary programs (earlier subscribers, kept copies, waiters, other combinators …) that run freely.
Only the ENTRY of the combinator callback is synchronised:

  Shared instance i                                      combinator (When)
  ---------------------------------------------------    ------------------------------------------------
  observer 0: `oLoad` / `oCasFail` / `oCasSpur`          —        (the registering thread is inside SetCallbackImpl<true>)
  observer 0: `oCasOk 0`      (callback pushed)          `regSet i true`
  observer 0: `oEnter 0 c`    (result was there: inline) `regSet i false`
  fulfiller:  `fEnter ⟨0, 0, .retire⟩` (the walk runs it) `fire i`
  every other step of the instance                       —        (free)

`Retire()` of the entered callback (`rRefLoad` / `rRetire`: copy unless sole owner, `DecRef`) stays a free step of the
instance: what it may do is C06's `retire_moves_only_as_sole_owner`; the When model's own `retire` / `dtorRel` steps only
count the release.  As in `WhenU` the When state takes the EFFECT of its interface steps without their guards.
-/
import YaclibModel.Model.When
import YaclibModel.Model.Shared

namespace Yaclib.WhenS
open Yaclib

def convS : When.Res → Shared.Res
  | .val v => .val v
  | .err _ => .err
  | .exc _ => .exc

structure Workload where
  w : When.Workload
  /-- the programs of the other observers of input i's shared core -/
  others : Nat → List (List Shared.Op)

/-- input i as a C06 workload: observer 0 is the combinator -/
def wS (W : Workload) (i : Nat) : Shared.Workload := ⟨.set (convS (W.w.inp i)), [.attach .retire] :: W.others i⟩

/-- the combinator's callback object on every instance: observer 0's first (and only) callback -/
def cb0 : Shared.Cb := ⟨0, 0, .retire⟩

structure State where
  wh : When.State
  sh : Nat → Shared.State

def init (W : Workload) : State := ⟨When.init W.w, fun i => Shared.init (wS W i)⟩

/-- steps of an instance that do not belong to the combinator: not observer 0's, not the entry of its callback -/
def isFree : Shared.Label → Bool
  | .oLoad t _ | .oCasOk t | .oCasFail t _ | .oCasSpur t _ | .oInvoke t _ _ | .oIncRef t _ | .oSubmit t _ | .oForward t _ _
  | .oEnter t _ | .oWaited t | .oGetc t _ | .oGetRef t _ | .oGot t _ _ | .oRdLoad t _ | .oReady t _ | .oTouch t _
  | .oCopy t _ | .oDrop t _ => decide (t ≠ 0)
  | .fEnter c => decide (c ≠ cb0)
  | _ => true

/-- the registering thread inside `SetCallbackImpl<true>`: load, failed / spurious CAS -/
def isRegInternal : Shared.Label → Bool
  | .oLoad t _ | .oCasFail t _ | .oCasSpur t _ => decide (t = 0)
  | _ => false

inductive Label where
  | when (l : When.Label)
  | free (i : Nat) (l : Shared.Label)
  | reg (i : Nat) (l : Shared.Label)
  | casOk (i : Nat)
  | enterC (i : Nat)
  | enterP (i : Nat)
  deriving DecidableEq, Repr

def isEnv : When.Label → Bool
  | .regSet _ _ => true
  | .fire _ => true
  | _ => false

def regAt (w : When.Workload) (s : When.State) (i : Nat) : Prop :=
  s.reg = i ∧ s.busy = none ∧ i < w.n ∧ s.crashed = false

instance (w : When.Workload) (s : When.State) (i : Nat) : Decidable (regAt w s i) := by unfold regAt; exact inferInstance

inductive Step (W : Workload) : State → Label → State → Prop where
  | when (S : State) (l : When.Label) (wh' : When.State) (hl : isEnv l = false) (h : When.Step W.w S.wh l wh') :
      Step W S (.when l) { S with wh := wh' }
  | free (S : State) (i : Nat) (l : Shared.Label) (s' : Shared.State) (hi : i < W.w.n) (hl : isFree l = true)
      (h : Shared.Step (S.sh i) l s') : Step W S (.free i l) { S with sh := When.upd S.sh i s' }
  | reg (S : State) (i : Nat) (l : Shared.Label) (s' : Shared.State) (hr : regAt W.w S.wh i) (hl : isRegInternal l = true)
      (h : Shared.Step (S.sh i) l s') : Step W S (.reg i l) { S with sh := When.upd S.sh i s' }
  | casOk (S : State) (i : Nat) (s' : Shared.State) (hr : regAt W.w S.wh i) (h : Shared.Step (S.sh i) (.oCasOk 0) s') :
      Step W S (.casOk i) ⟨When.doRegSet W.w S.wh i true, When.upd S.sh i s'⟩
  | enterC (S : State) (i : Nat) (s' : Shared.State) (hr : regAt W.w S.wh i)
      (h : Shared.Step (S.sh i) (.oEnter 0 cb0) s') :
      Step W S (.enterC i) ⟨When.doRegSet W.w S.wh i false, When.upd S.sh i s'⟩
  | enterP (S : State) (i : Nat) (s' : Shared.State) (hi : i < W.w.n) (h : Shared.Step (S.sh i) (.fEnter cb0) s') :
      Step W S (.enterP i) ⟨When.doFire W.w S.wh i, When.upd S.sh i s'⟩

inductive Reachable (W : Workload) : State → Prop where
  | init : Reachable W (init W)
  | step {S l S'} : Reachable W S → Step W S l S' → Reachable W S'

/-- executable transition function: the components' own `next` -/
def next (W : Workload) (S : State) : Label → Option State
  | .when l => if isEnv l = false then (When.next W.w S.wh l).map (fun wh' => { S with wh := wh' }) else none
  | .free i l =>
      if i < W.w.n ∧ isFree l = true then (Shared.next (S.sh i) l).map (fun s' => { S with sh := When.upd S.sh i s' })
      else none
  | .reg i l =>
      if regAt W.w S.wh i ∧ isRegInternal l = true then
        (Shared.next (S.sh i) l).map (fun s' => { S with sh := When.upd S.sh i s' })
      else none
  | .casOk i =>
      if regAt W.w S.wh i then
        (Shared.next (S.sh i) (.oCasOk 0)).map (fun s' => ⟨When.doRegSet W.w S.wh i true, When.upd S.sh i s'⟩)
      else none
  | .enterC i =>
      if regAt W.w S.wh i then
        (Shared.next (S.sh i) (.oEnter 0 cb0)).map (fun s' => ⟨When.doRegSet W.w S.wh i false, When.upd S.sh i s'⟩)
      else none
  | .enterP i =>
      if i < W.w.n then (Shared.next (S.sh i) (.fEnter cb0)).map (fun s' => ⟨When.doFire W.w S.wh i, When.upd S.sh i s'⟩)
      else none

theorem next_sound {W : Workload} {S : State} {l : Label} {S' : State} (h : next W S l = some S') : Step W S l S' := by
  cases l <;> simp only [next, Option.map] at h <;> (repeat' split at h) <;> cases h <;>
    constructor <;> first | assumption | exact When.next_sound ‹_› | exact Shared.next_sound ‹_› | simp_all

end Yaclib.WhenS
