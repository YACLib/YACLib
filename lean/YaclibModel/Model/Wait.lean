/-
C11 — Wait / WaitFor / WaitUntil over n futures.

Written from /repo: `detail::WaitRange`, `WaitCore`, `WaitIterator` (include/yaclib/async/detail/wait_impl.hpp),
`MultiEvent` + `CallCallback::Impl` (algo/detail/wait_event.hpp), `AtomicCounter::{Sub, SubEqual}`, `OneCounter`
(util/detail/atomic_counter.hpp, unique_counter.hpp), `SetDeleter`, `MutexEvent::{Make, Wait, Set}`
(src/util/mutex_event.cpp + the timed `Wait(token, timeout)` = `cv.wait_for/until(token, t, pred)`),
`BaseCore::{SetCallbackImpl<false/true>, ResetImpl, SetResultImpl<·,false>}` (src/algo/base_core.cpp),
`FutureBase::Get() &&` (= `Wait(*this)` + take), the attaching consumers of C01.

Threads: one waiter `w` and one producer `p i` per future `i < n` (n is a parameter of the workload).
The waiter runs a list of wait calls (each over an index range `[lo, hi)`, timed or not: `Wait`, `WaitFor`,
`WaitUntil`, variadic or iterator form — they all end in `WaitRange`) and then, future by future, a consuming
operation (`ThenInline`/`DetachInline` = attach, `Get() &&` = a one-future untimed wait followed by the read, or nothing).

Granularity: one step per atomic operation on a word / on the event counter, per lock / unlock of the event's
mutex, plus the observable events of the client (`call`, `ret`, `fin`, `invoke`, `got`) and the timeout of the
timed wait.  Thread-local code between two such operations is folded into the following step.

The wait event is a *stack object* of the waiter: `alive` is true from its construction to the moment the waiter
can leave `WaitRange` (the step after which no operation of the waiter on the event follows).  A producer that took
the event pointer out of a word later touches the event (`fetch_sub` on the counter, `lock`/`unlock` inside `Set`);
if it does so while `alive = false` the sticky flag `uaf` is set.  Stack reuse is modelled literally: a stale pointer
aliases whatever event is alive at that moment.

Pre-check loads may be stale: after the producer's exchange a load may still return the waiter's own last write.
-/
import YaclibModel.Model.Unique

namespace Yaclib.Wait
open Yaclib.Unique (Res)

inductive Word where
  | empty | ev | cont | result
  deriving DecidableEq, Repr

/-- producer program counter -/
inductive PPc where
  | start      -- has not exchanged yet
  | took       -- exchange returned the event pointer: `CallCallback::Impl` → `Sub(1)` = `fetch_sub` next
  | setting    -- its decrement reached zero (or OneCounter): `SetDeleter` → `MutexEvent::Set`: `lock` next
  | locked     -- inside `Set`, holds the event's mutex: `unlock` next
  | fire       -- exchange returned a continuation: invoke it next
  | done
  deriving DecidableEq, Repr

/-- ghost: what happened to future `i` in the wait call that is running -/
inductive G where
  | out     -- not registered by this call (not in range, not reached yet, or registration failed)
  | inn     -- registered: the event pointer sits in the word
  | taken   -- the producer took the pointer out and has not decremented yet
  | decd    -- the producer has decremented (and possibly has to call `Set`)
  | back    -- the waiter won the word back (`Reset`)
  deriving DecidableEq, Repr

structure Fut where
  word : Word := .empty
  prev : Word := .empty     -- the waiter's last own write (what a stale load may still return)
  ppc : PPc := .start
  g : G := .out
  ndel : Nat := 0           -- ghost: deliveries of this future's result (continuation invocations + `Get` returns)
  deriving DecidableEq, Repr

/-- the consuming operation on a future after all wait calls -/
inductive Fin where
  | none | attach | get
  deriving DecidableEq, Repr

/-- one Wait / WaitFor / WaitUntil call over the futures `[lo, lo + len)` -/
structure Call where
  lo : Nat
  len : Nat
  timed : Bool
  deriving DecidableEq, Repr

def Call.hi (c : Call) : Nat := c.lo + c.len

structure Workload where
  n : Nat
  res : Nat → Res            -- what producer i sets
  shared : Nat → Bool        -- future i is a SharedFuture (registration by weak-CAS loop)
  calls : List Call
  fin : Nat → Fin

inductive Tid where
  | w | p (i : Nat)
  deriving DecidableEq, Repr

/-- waiter program counter -/
inductive WPc where
  | idle
  | reg (i : Nat)               -- `SetCallback` on future i: pre-check load next
  | regCas (i : Nat)            -- … the CAS next
  | sub1                        -- `event.SubEqual(count - wait_count + 1)` next
  | lock1                       -- `event.Make()`: lock next
  | held (final : Bool)         -- holds the mutex, flag not set: `cv.wait*` unlocks next
  | asleep (final : Bool)       -- blocked in `cv.wait*`
  | timedOut                    -- `cv.wait_for/until` timed out: re-lock next
  | rst (i : Nat)               -- `Reset` on future i: relaxed load next
  | rstCas (i : Nat) (x : Word) -- … the CAS `x → empty` next
  | sub2                        -- `event.SubEqual(reset_count)` next
  | unlockRet (b : Bool)        -- return value decided, `token` is unlocked next
  | retn (b : Bool)             -- has left `WaitRange`, the client observes `b` next
  | att (i : Nat) | attCas (i : Nat) | attFail (i : Nat)   -- consuming attach on future i
  | gotRep (i : Nat)            -- `Get() &&`: waited, read + report next
  deriving DecidableEq, Repr

structure State where
  w : Workload
  fut : Nat → Fut
  wpc : WPc
  calls : List Call          -- wait calls not finished yet (head = the running one while `wpc ≠ idle`)
  fi : Nat                   -- next future to consume
  -- the running call
  lo : Nat
  hi : Nat
  timed : Bool
  inGet : Bool               -- the running call is the wait inside `Get() &&` of future `lo`
  wc : Nat                   -- `wait_count`
  rc : Nat                   -- `reset_count`
  -- the event
  alive : Bool
  counter : Int
  ready : Bool               -- `MutexEvent::_is_ready`
  holder : Option Tid        -- who holds `MutexEvent::_m`
  -- ghost
  sub1done : Bool
  sub2done : Bool
  timedOutSeen : Bool        -- the timeout step happened in the running call
  setter : Option Nat        -- the producer whose decrement reached zero in the running call
  evSet : Nat                -- number of `Set` calls on the running call's event
  uaf : Bool                 -- a producer touched the event while it was not alive

def upd (f : Nat → Fut) (i : Nat) (x : Fut) : Nat → Fut := fun j => if j = i then x else f j

def init (w : Workload) : State :=
  { w := w, fut := fun _ => {}, wpc := .idle, calls := w.calls, fi := 0, lo := 0, hi := 0, timed := false, inGet := false,
    wc := 0, rc := 0, alive := false, counter := 0, ready := false, holder := none,
    sub1done := false, sub2done := false, timedOutSeen := false, setter := none, evSet := 0, uaf := false }

inductive Label where
  -- waiter
  | call (lo hi : Nat) (timed : Bool)           -- client calls Wait / WaitFor / WaitUntil over futures [lo, hi)
  | wLoad (i : Nat) (x : Word)                  -- load of word i (acquire in SetCallback, relaxed in Reset) → x
  | wCas (i : Nat) (ok : Bool)                  -- compare_exchange on word i (register / reset / attach)
  | wSpur (i : Nat) (x : Word)                  -- weak CAS (shared future) failed spuriously, re-read x
  | wSub (a : Nat) (old : Int)                  -- counter.fetch_sub(a, release) → old
  | timeout                                     -- the timed wait's deadline passed
  | ret (b : Bool)                              -- the wait call returned b to the client
  | fin (i : Nat) (k : Fin)                     -- client starts the consuming operation on future i
  | got (i : Nat) (r : Res)                     -- Get() && returned r
  -- producers
  | pXchg (i : Nat) (old : Word)                -- word i .exchange(result, acq_rel) → old
  | pSub (i : Nat) (old : Int)                  -- counter.fetch_sub(1, release) → old
  -- both
  | lock (t : Tid) | unlock (t : Tid)
  | invoke (t : Tid) (i : Nat) (r : Res)        -- continuation of future i runs on thread t with r

/-- a load of word `f.word` by the waiter: the current value or, once the producer has exchanged, possibly
    still the waiter's own last write -/
def loadOk (f : Fut) (x : Word) : Prop := x = f.word ∨ (f.word = .result ∧ x = f.prev)

instance (f : Fut) (x : Word) : Decidable (loadOk f x) := by unfold loadOk; exact inferInstance

/-! ### effects -/

/-- the waiter leaves `WaitRange` with `b` (the event dies); inside `Get() &&` the read follows -/
def toRet (s : State) (b : Bool) : State :=
  if s.inGet then { s with wpc := .gotRep s.lo, alive := false } else { s with wpc := .retn b, alive := false }

/-- registration loop: continue with future `i`, or — when the range is exhausted — decide what follows:
    `wait_count == 0` → return true; OneCounter: `SubEqual` is constant false → lock; else the first `SubEqual` -/
def advReg (s : State) (i : Nat) : State :=
  if i < s.hi then { s with wpc := .reg i }
  else if s.wc = 0 then toRet s true
  else if s.hi - s.lo = 1 then { s with wpc := .lock1 }
  else { s with wpc := .sub1 }

/-- `WaitCore` / `WaitIterator`: construct the event (`count + 1`), start registering -/
def doBegin (s : State) (lo hi : Nat) (timed inGet : Bool) : State :=
  advReg { s with fut := fun j => { s.fut j with g := .out }, lo := lo, hi := hi, timed := timed, inGet := inGet,
                  wc := 0, rc := 0, alive := true, counter := ((hi - lo : Nat) : Int) + 1, ready := false, holder := none,
                  sub1done := false, sub2done := false, timedOutSeen := false, setter := none, evSet := 0 } lo

def doRegLoad (s : State) (i : Nat) (x : Word) : State :=
  if x = .empty then { s with wpc := .regCas i } else advReg s (i + 1)

def doRegCasOk (s : State) (i : Nat) : State :=
  advReg { s with fut := upd s.fut i { s.fut i with word := .ev, prev := .ev, g := .inn }, wc := s.wc + 1 } (i + 1)

/-- first `SubEqual`: `fetch_sub(count - wait_count + 1)`; it returns true iff every registered producer has
    already decremented -/
def doSub1 (s : State) : State :=
  let a : Int := (((s.hi - s.lo) - s.wc + 1 : Nat) : Int)
  let s1 := { s with counter := s.counter - a, sub1done := true }
  if s.counter = a then toRet s1 true else { s1 with wpc := .lock1 }

/-- the untimed `event.Wait(token)` entered with the mutex held -/
def finalWait (s : State) : State :=
  if s.ready then { s with wpc := .unlockRet (decide (s.rc = 0)) } else { s with wpc := .held true }

/-- reset loop: continue with future `i`, or decide what follows -/
def advRst (s : State) (i : Nat) : State :=
  if i < s.hi then { s with wpc := .rst i }
  else if s.rc ≠ 0 ∧ s.rc = s.wc then { s with wpc := .unlockRet false }
  else if s.rc ≠ 0 ∧ s.hi - s.lo ≠ 1 then { s with wpc := .sub2 }
  else finalWait s

def doLock1 (s : State) : State :=
  if s.ready then { s with holder := some .w, wpc := .unlockRet true }
  else { s with holder := some .w, wpc := .held (!s.timed) }

def doWake (s : State) (f : Bool) : State :=
  if s.ready then { s with holder := some .w, wpc := .unlockRet (if f then decide (s.rc = 0) else true) }
  else { s with holder := some .w, wpc := .held f }

def doLockT (s : State) : State :=
  if s.ready then { s with holder := some .w, wpc := .unlockRet true }
  else advRst { s with holder := some .w } s.lo

def doRstLoad (s : State) (i : Nat) (x : Word) : State :=
  if x = .result then advRst s (i + 1) else { s with wpc := .rstCas i x }

def doRstCasOk (s : State) (i : Nat) : State :=
  advRst { s with fut := upd s.fut i { s.fut i with word := .empty, prev := .empty, g := .back }, rc := s.rc + 1 } (i + 1)

def doSub2 (s : State) : State :=
  let s1 := { s with counter := s.counter - (s.rc : Int), sub2done := true }
  if s.counter = (s.rc : Int) then { s1 with wpc := .unlockRet false } else finalWait s1

def doUnlockRet (s : State) (b : Bool) : State := toRet { s with holder := none } b

def doRet (s : State) : State := { s with wpc := .idle, calls := s.calls.tail }

def doFin (s : State) (i : Nat) (k : Fin) : State :=
  match k with
  | .none => { s with fi := i + 1 }
  | .attach => { s with wpc := .att i }
  | .get => doBegin s i (i + 1) false true

def doAttLoad (s : State) (i : Nat) (x : Word) : State :=
  if x = .empty then { s with wpc := .attCas i } else { s with wpc := .attFail i }

def doAttCasOk (s : State) (i : Nat) : State :=
  { s with fut := upd s.fut i { s.fut i with word := .cont, prev := .cont }, wpc := .idle, fi := i + 1 }

def doDeliverW (s : State) (i : Nat) : State :=
  { s with fut := upd s.fut i { s.fut i with ndel := (s.fut i).ndel + 1 }, wpc := .idle, fi := i + 1 }

/-- `SetResultImpl<·,false>`: `exchange(kResult)`; a callback that was there is run by the producer -/
def doXchg (s : State) (i : Nat) : State :=
  match (s.fut i).word with
  | .ev =>
      if s.hi - s.lo = 1 then   -- OneCounter: `Sub` is `Set` at once, no atomic operation in between
        { s with fut := upd s.fut i { s.fut i with word := .result, ppc := .setting, g := .decd }, setter := some i }
      else { s with fut := upd s.fut i { s.fut i with word := .result, ppc := .took, g := .taken } }
  | .cont => { s with fut := upd s.fut i { s.fut i with word := .result, ppc := .fire } }
  | _ => { s with fut := upd s.fut i { s.fut i with word := .result, ppc := .done } }

/-- `CallCallback::Impl` → `AtomicCounter::Sub(1)`: `fetch_sub(1)`; `SetDeleter` runs iff it returned 1 -/
def doPSub (s : State) (i : Nat) : State :=
  let s1 := { s with counter := s.counter - 1, uaf := s.uaf || !s.alive }
  if s.counter = 1 then
    { s1 with fut := upd s.fut i { s.fut i with ppc := .setting, g := .decd }, setter := some i }
  else { s1 with fut := upd s.fut i { s.fut i with ppc := .done, g := .decd } }

/-- `MutexEvent::Set`: lock, `_is_ready = true`, notify (under the mutex) … -/
def doPLock (s : State) (i : Nat) : State :=
  { s with fut := upd s.fut i { s.fut i with ppc := .locked }, holder := some (.p i), ready := true,
           evSet := s.evSet + 1, uaf := s.uaf || !s.alive }

/-- … unlock: the producer's last access to the event -/
def doPUnlock (s : State) (i : Nat) : State :=
  { s with fut := upd s.fut i { s.fut i with ppc := .done }, holder := none, uaf := s.uaf || !s.alive }

def doPInvoke (s : State) (i : Nat) : State :=
  { s with fut := upd s.fut i { s.fut i with ppc := .done, ndel := (s.fut i).ndel + 1 } }

inductive Step : State → Label → State → Prop where
  /-- the client calls the next Wait / WaitFor / WaitUntil -/
  | wCall (s : State) (c : Call) (rest : List Call) (h : s.wpc = .idle) (hc : s.calls = c :: rest) :
      Step s (.call c.lo c.hi c.timed) (doBegin s c.lo c.hi c.timed false)
  /-- `SetCallbackImpl`: pre-check load (may be stale) … -/
  | wRegLoad (s : State) (i : Nat) (x : Word) (h : s.wpc = .reg i) (hx : loadOk (s.fut i) x) :
      Step s (.wLoad i x) (doRegLoad s i x)
  /-- … and the CAS `empty → event` (strong for unique, weak for shared futures) -/
  | wRegCasOk (s : State) (i : Nat) (h : s.wpc = .regCas i) (hw : (s.fut i).word = .empty) :
      Step s (.wCas i true) (doRegCasOk s i)
  | wRegCasFail (s : State) (i : Nat) (h : s.wpc = .regCas i) (hw : (s.fut i).word ≠ .empty) :
      Step s (.wCas i false) (advReg s (i + 1))
  /-- `compare_exchange_weak` failing spuriously re-reads the word -/
  | wRegSpur (s : State) (i : Nat) (x : Word) (h : s.wpc = .regCas i) (hs : s.w.shared i = true)
      (hx : loadOk (s.fut i) x) : Step s (.wSpur i x) (doRegLoad s i x)
  | wSub1 (s : State) (h : s.wpc = .sub1) :
      Step s (.wSub ((s.hi - s.lo) - s.wc + 1) s.counter) (doSub1 s)
  | wLock1 (s : State) (h : s.wpc = .lock1) (hm : s.holder = none) : Step s (.lock .w) (doLock1 s)
  | wSleep (s : State) (f : Bool) (h : s.wpc = .held f) :
      Step s (.unlock .w) { s with wpc := .asleep f, holder := none }
  /-- wake-up (the model also allows it while the flag is not set: spurious wake-up) -/
  | wWake (s : State) (f : Bool) (h : s.wpc = .asleep f) (hm : s.holder = none) : Step s (.lock .w) (doWake s f)
  /-- the deadline of the timed wait passes; only the timed (first) wait of a timed call can time out -/
  | wTimeout (s : State) (h : s.wpc = .asleep false) (ht : s.timed = true) :
      Step s .timeout { s with wpc := .timedOut, timedOutSeen := true }
  | wLockT (s : State) (h : s.wpc = .timedOut) (hm : s.holder = none) : Step s (.lock .w) (doLockT s)
  /-- `ResetImpl`: relaxed load (may be stale) … -/
  | wRstLoad (s : State) (i : Nat) (x : Word) (h : s.wpc = .rst i) (hx : loadOk (s.fut i) x) :
      Step s (.wLoad i x) (doRstLoad s i x)
  /-- … and the strong CAS `x → empty` -/
  | wRstCasOk (s : State) (i : Nat) (x : Word) (h : s.wpc = .rstCas i x) (hw : (s.fut i).word = x) :
      Step s (.wCas i true) (doRstCasOk s i)
  | wRstCasFail (s : State) (i : Nat) (x : Word) (h : s.wpc = .rstCas i x) (hw : (s.fut i).word ≠ x) :
      Step s (.wCas i false) (advRst s (i + 1))
  | wSub2 (s : State) (h : s.wpc = .sub2) : Step s (.wSub s.rc s.counter) (doSub2 s)
  | wUnlockRet (s : State) (b : Bool) (h : s.wpc = .unlockRet b) : Step s (.unlock .w) (doUnlockRet s b)
  | wRet (s : State) (b : Bool) (h : s.wpc = .retn b) : Step s (.ret b) (doRet s)
  /-- after the wait calls: the consuming operations, future by future -/
  | wFin (s : State) (h : s.wpc = .idle) (hc : s.calls = []) (hi : s.fi < s.w.n) :
      Step s (.fin s.fi (s.w.fin s.fi)) (doFin s s.fi (s.w.fin s.fi))
  | wAttLoad (s : State) (i : Nat) (x : Word) (h : s.wpc = .att i) (hx : loadOk (s.fut i) x) :
      Step s (.wLoad i x) (doAttLoad s i x)
  | wAttCasOk (s : State) (i : Nat) (h : s.wpc = .attCas i) (hw : (s.fut i).word = .empty) :
      Step s (.wCas i true) (doAttCasOk s i)
  | wAttCasFail (s : State) (i : Nat) (h : s.wpc = .attCas i) (hw : (s.fut i).word ≠ .empty) :
      Step s (.wCas i false) { s with wpc := .attFail i }
  /-- the result was there: the waiter runs its continuation inline -/
  | wInvoke (s : State) (i : Nat) (h : s.wpc = .attFail i) (hw : (s.fut i).word = .result) :
      Step s (.invoke .w i (s.w.res i)) (doDeliverW s i)
  | wGot (s : State) (i : Nat) (h : s.wpc = .gotRep i) (hw : (s.fut i).word = .result) :
      Step s (.got i (s.w.res i)) (doDeliverW s i)
  /-- producers -/
  | pXchg (s : State) (i : Nat) (hi : i < s.w.n) (h : (s.fut i).ppc = .start) (hw : (s.fut i).word ≠ .result) :
      Step s (.pXchg i (s.fut i).word) (doXchg s i)
  | pSub (s : State) (i : Nat) (h : (s.fut i).ppc = .took) : Step s (.pSub i s.counter) (doPSub s i)
  | pLock (s : State) (i : Nat) (h : (s.fut i).ppc = .setting) (hm : s.holder = none) :
      Step s (.lock (.p i)) (doPLock s i)
  | pUnlock (s : State) (i : Nat) (h : (s.fut i).ppc = .locked) : Step s (.unlock (.p i)) (doPUnlock s i)
  | pInvoke (s : State) (i : Nat) (h : (s.fut i).ppc = .fire) :
      Step s (.invoke (.p i) i (s.w.res i)) (doPInvoke s i)

inductive Reachable (w : Workload) : State → Prop where
  | init : Reachable w (init w)
  | step {s l s'} : Reachable w s → Step s l s' → Reachable w s'

/-- executable transition function used by the trace validator (`ymdriver`) -/
def next (s : State) : Label → Option State
  | .call lo hi timed =>
      match s.calls with
      | c :: _ => if s.wpc = .idle ∧ c.lo = lo ∧ c.hi = hi ∧ c.timed = timed then some (doBegin s c.lo c.hi c.timed false) else none
      | [] => none
  | .wLoad i x =>
      if loadOk (s.fut i) x then
        if s.wpc = .reg i then some (doRegLoad s i x)
        else if s.wpc = .rst i then some (doRstLoad s i x)
        else if s.wpc = .att i then some (doAttLoad s i x)
        else none
      else none
  | .wCas i ok =>
      match s.wpc with
      | .regCas j =>
          if j = i then
            if ok then (if (s.fut i).word = .empty then some (doRegCasOk s i) else none)
            else (if (s.fut i).word ≠ .empty then some (advReg s (i + 1)) else none)
          else none
      | .rstCas j x =>
          if j = i then
            if ok then (if (s.fut i).word = x then some (doRstCasOk s i) else none)
            else (if (s.fut i).word ≠ x then some (advRst s (i + 1)) else none)
          else none
      | .attCas j =>
          if j = i then
            if ok then (if (s.fut i).word = .empty then some (doAttCasOk s i) else none)
            else (if (s.fut i).word ≠ .empty then some { s with wpc := .attFail i } else none)
          else none
      | _ => none
  | .wSpur i x =>
      if s.wpc = .regCas i ∧ s.w.shared i = true ∧ loadOk (s.fut i) x then some (doRegLoad s i x) else none
  | .wSub a old =>
      if s.wpc = .sub1 ∧ a = (s.hi - s.lo) - s.wc + 1 ∧ old = s.counter then some (doSub1 s)
      else if s.wpc = .sub2 ∧ a = s.rc ∧ old = s.counter then some (doSub2 s)
      else none
  | .timeout =>
      if s.wpc = .asleep false ∧ s.timed = true then some { s with wpc := .timedOut, timedOutSeen := true } else none
  | .ret b => if s.wpc = .retn b then some (doRet s) else none
  | .fin i k =>
      if s.wpc = .idle ∧ s.calls = [] ∧ s.fi < s.w.n ∧ i = s.fi ∧ k = s.w.fin s.fi then some (doFin s s.fi (s.w.fin s.fi))
      else none
  | .got i r =>
      if s.wpc = .gotRep i ∧ (s.fut i).word = .result ∧ r = s.w.res i then some (doDeliverW s i) else none
  | .pXchg i old =>
      if i < s.w.n ∧ (s.fut i).ppc = .start ∧ (s.fut i).word ≠ .result ∧ old = (s.fut i).word then some (doXchg s i)
      else none
  | .pSub i old => if (s.fut i).ppc = .took ∧ old = s.counter then some (doPSub s i) else none
  | .lock .w =>
      if s.holder = none then
        match s.wpc with
        | .lock1 => some (doLock1 s)
        | .asleep f => some (doWake s f)
        | .timedOut => some (doLockT s)
        | _ => none
      else none
  | .lock (.p i) => if (s.fut i).ppc = .setting ∧ s.holder = none then some (doPLock s i) else none
  | .unlock .w =>
      match s.wpc with
      | .held f => some { s with wpc := .asleep f, holder := none }
      | .unlockRet b => some (doUnlockRet s b)
      | _ => none
  | .unlock (.p i) => if (s.fut i).ppc = .locked then some (doPUnlock s i) else none
  | .invoke .w i r =>
      if s.wpc = .attFail i ∧ (s.fut i).word = .result ∧ r = s.w.res i then some (doDeliverW s i) else none
  | .invoke (.p j) i r =>
      if j = i ∧ (s.fut i).ppc = .fire ∧ r = s.w.res i then some (doPInvoke s i) else none

theorem next_sound {s : State} {l : Label} {s' : State} (h : next s l = some s') : Step s l s' := by
  cases l <;> (try cases ‹Tid›) <;> simp only [next] at h <;> (repeat' split at h) <;> cases h <;>
    (repeat cases ‹_ ∧ _›) <;> (try simp only [Bool.not_eq_true] at *) <;> subst_vars <;> constructor <;>
    first | assumption | simp_all

end Yaclib.Wait
