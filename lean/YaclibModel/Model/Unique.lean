/-
C01 — Promise → Future hand-off through the one-word state of a unique core.

Written from /repo: `BaseCore::{SetCallbackImpl<false>, SetResultImpl<·,false>}` (src/algo/base_core.cpp),
`Promise::Set / ~Promise`, `FutureBase::{~FutureBase, Detach, Get, Ready}`, `detail::SetCallback`,
`Connect`, `WaitCore` + `MutexEvent` for the blocking forms.

Granularity: one step per atomic operation on the word (`load`, `compare_exchange_strong`,
`exchange`), per lock/unlock of the wait event's mutex, and per observable event of the client
(continuation body invoked, `Get` returned, `Ready()` reported …).  Thread-local code between two
such operations is folded into the following step; in particular the producer's plain
`Store(result)` is folded into its `exchange`.

Two threads: the producer `p` (owns the Promise) and the consumer `c` (owns the Future).
The consumer's loads may be *stale*: after the producer's exchange a load may still return the
value the consumer wrote last (coherence allows nothing older, because the consumer has seen all of
its own writes and the producer writes exactly once, with an RMW).
-/
namespace Yaclib.Unique

/-- what a Result can hold, abstracted: a value (identified by a number), the library's error
    (`StopError`, also produced by dropping the Promise) or an exception -/
inductive Res where
  | val (n : Nat) | err | exc
  deriving DecidableEq, Repr

/-- what can sit in the word as a callback -/
inductive Cb where
  | cont      -- a continuation core (ThenInline / Then(e) / DetachInline / Detach(e))
  | drop      -- the shared Drop core (Future destroyed / Detach())
  | event     -- the stack event of Wait / Get&&
  | target    -- another Promise's core (Connect)
  deriving DecidableEq, Repr

inductive Word where
  | empty | cb (k : Cb) | result
  deriving DecidableEq, Repr

/-- how the producer ends -/
inductive Prod where
  | set (r : Res)   -- Promise::Set(value / error / exception)
  | drop            -- ~Promise on a valid promise = Set(StopTag)
  deriving DecidableEq, Repr

def Prod.res : Prod → Res
  | .set r => r
  | .drop => .err

/-- consumer operations that do not consume the Future -/
inductive Pre where
  | ready      -- Future::Ready()
  | getc       -- Future::Get() const&
  | wait       -- Wait(f)
  deriving DecidableEq, Repr

/-- the consuming operation -/
inductive Fin where
  | attach (viaExec : Bool)   -- ThenInline/DetachInline (false), Then(e)/Detach(e) (true)
  | drop                      -- ~Future / Detach()
  | getMove                   -- Get() &&
  | connect                   -- Connect(std::move(f), p2)
  deriving DecidableEq, Repr

structure Workload where
  prod : Prod
  pre : List Pre
  fin : Fin
  deriving Repr

inductive Tid where | p | c deriving DecidableEq, Repr

/-- producer program counter -/
inductive PPc where
  | start                 -- has not exchanged yet
  | fire (k : Cb)         -- exchange returned callback `k`: must run it (Loop → Here)
  | submitted             -- a `viaExec` continuation was submitted, about to be invoked
  | evLocked              -- inside MutexEvent::Set (holds the mutex)
  | done
  deriving DecidableEq, Repr

/-- consumer program counter -/
inductive CPc where
  | idle                          -- between operations
  | attLoaded (k : Cb)            -- SetCallbackImpl<false>: pre-check load saw `empty`, CAS next
  | attFailed (k : Cb)            -- SetCallback returned false: the result is there, run `k` inline
  | submitted                     -- inline path of a `viaExec` continuation: submitted, invoke next
  | repReady (b : Bool)           -- Ready(): loaded, report next
  | repGetc (b : Bool)            -- Get() const&: loaded, report next
  | waitAttached                  -- Wait: event attached, lock next
  | waitLocked (ready : Bool)     -- holding the event mutex, saw the flag
  | waitSleeping                  -- released the mutex inside cv.wait
  | repGot                        -- Get()&&: waited, read + report next
  deriving DecidableEq, Repr

/-- remaining consumer program -/
inductive COp where
  | pre (o : Pre) | fin (f : Fin)
  deriving DecidableEq, Repr

structure State where
  w : Workload
  word : Word
  prev : Word                    -- the consumer's last own write (what a stale load may return)
  stored : Option Res            -- the core's result storage; `none` = not constructed
  ppc : PPc
  cpc : CPc
  todo : List COp                -- consumer operations not started yet (head = current when cpc ≠ idle)
  waitFin : Bool                 -- the running wait belongs to Get()&& (report afterwards)
  viaExec : Bool                 -- the attached continuation goes through an executor
  evReady : Bool                 -- MutexEvent::_is_ready
  evHolder : Option Tid          -- who holds MutexEvent::_m
  -- ghost history
  delivered : List (Tid × Res)   -- continuation invocations: who ran it, what it received
  got : List Res                 -- values returned by Get()&&
  forwarded : List (Tid × Res)   -- Connect: result stored into the target promise
  readyObs : List (Bool × Bool)  -- Ready() reports: (reported, storage constructed at that moment)
  getcObs : List (Option Res)    -- Get() const& reports
  dropped : List Tid             -- Drop core executed (core released without running anything)
  evSet : Nat                    -- number of MutexEvent::Set calls
  deriving Repr

def init (w : Workload) : State :=
  { w := w, word := .empty, prev := .empty, stored := none, ppc := .start, cpc := .idle,
    todo := w.pre.map .pre ++ [.fin w.fin], waitFin := false, viaExec := false,
    evReady := false, evHolder := none,
    delivered := [], got := [], forwarded := [], readyObs := [], getcObs := [], dropped := [], evSet := 0 }

/-- one line of a trace -/
inductive Label where
  -- producer
  | pXchg (old : Word)                     -- exchange(kResult, acq_rel) → old
  -- consumer, on the word
  | cLoad (x : Word)                       -- load(acquire) → x
  | cCas (k : Cb) (ok : Bool)              -- compare_exchange_strong(empty → cb k, release/acquire)
  -- event mutex
  | lock (t : Tid) | unlock (t : Tid)
  -- client-visible events
  | submit (t : Tid)                       -- continuation handed to its executor
  | invoke (t : Tid) (r : Res)             -- continuation body runs with Result r
  | forward (t : Tid) (r : Res)            -- Connect target receives r
  | ready (b : Bool) | getc (r : Option Res) | got (r : Res)
  deriving DecidableEq, Repr

def finCb : Fin → Option Cb
  | .attach _ => some .cont
  | .drop => some .drop
  | .getMove => some .event
  | .connect => some .target

/-- the callback the consumer's current operation attaches -/
def opCb : COp → Option Cb
  | .pre .wait => some .event
  | .pre _ => none
  | .fin f => finCb f

/-- what the *consumer* does once it knows the result is there and its callback was not attached -/
def afterFail (s : State) (k : Cb) : State :=
  match k with
  | .event => -- WaitRange: wait_count = 0 → return true at once
      if s.waitFin then { s with cpc := .repGot } else { s with cpc := .idle, todo := s.todo.tail }
  | .drop => -- Drop::Here releases the core; nothing is invoked (folded: no shared operation in between)
      { s with cpc := .idle, todo := s.todo.tail, dropped := s.dropped ++ [.c], stored := none }
  | _ => { s with cpc := .attFailed k }

/-! effects of the individual steps (shared by the relation `Step` and the executable `next`) -/

/-- Promise::Set / ~Promise: Store, then `exchange(kResult)` -/
def doXchg (s : State) : State :=
  match s.word with
  | .cb .drop => -- the Drop core only releases the core: no further shared operation, folded in
      { s with word := .result, stored := none, ppc := .done, dropped := s.dropped ++ [.p] }
  | .cb k => { s with word := .result, stored := some s.w.prod.res, ppc := .fire k }
  | _ => { s with word := .result, stored := some s.w.prod.res, ppc := .done }

def doPInvoke (s : State) (r : Res) : State :=
  { s with ppc := .done, delivered := s.delivered ++ [(.p, r)] }
def doPForward (s : State) (r : Res) : State :=
  { s with ppc := .done, forwarded := s.forwarded ++ [(.p, r)], stored := none }
def doPEvLock (s : State) : State :=
  { s with ppc := .evLocked, evHolder := some .p, evReady := true, evSet := s.evSet + 1 }

def doAttLoad (s : State) (op : COp) (k : Cb) (x : Word) : State :=
  let s' := { s with waitFin := decide (op = .fin .getMove), viaExec := decide (op = .fin (.attach true)) }
  if x = .empty then { s' with cpc := .attLoaded k } else afterFail s' k

def doCasOk (s : State) (k : Cb) : State :=
  match k with
  | .event => { s with word := .cb k, prev := .cb k, cpc := .waitAttached }
  | _ => { s with word := .cb k, prev := .cb k, cpc := .idle, todo := s.todo.tail }

def doCInvoke (s : State) (r : Res) : State :=
  { s with cpc := .idle, todo := s.todo.tail, delivered := s.delivered ++ [(.c, r)] }
def doCForward (s : State) (r : Res) : State :=
  { s with cpc := .idle, todo := s.todo.tail, forwarded := s.forwarded ++ [(.c, r)], stored := none }
def doCReady (s : State) (b : Bool) : State :=
  { s with cpc := .idle, todo := s.todo.tail, readyObs := s.readyObs ++ [(b, s.stored.isSome)] }
def doCGetc (s : State) (b : Bool) : State :=
  { s with cpc := .idle, todo := s.todo.tail, getcObs := s.getcObs ++ [if b then s.stored else none] }
def doCWaitDone (s : State) : State :=
  if s.waitFin then { s with cpc := .repGot, evHolder := none }
  else { s with cpc := .idle, todo := s.todo.tail, evHolder := none }
def doCGot (s : State) (r : Res) : State :=
  { s with cpc := .idle, todo := s.todo.tail, got := s.got ++ [r], stored := none }

/-- a load by the consumer returns the current word or, once the producer has exchanged, possibly
    still the consumer's own last write -/
def loadOk (s : State) (x : Word) : Prop := x = s.word ∨ (s.word = .result ∧ x = s.prev)

instance (s : State) (x : Word) : Decidable (loadOk s x) := by unfold loadOk; exact inferInstance

inductive Step : State → Label → State → Prop where
  | pXchg (s : State) (h : s.ppc = .start) (hw : s.word ≠ .result) : Step s (.pXchg s.word) (doXchg s)
  /-- producer runs a continuation it took out of the word (inline) -/
  | pInvoke (s : State) (r : Res) (h : s.ppc = .fire .cont) (hv : s.viaExec = false) (hr : s.stored = some r) :
      Step s (.invoke .p r) (doPInvoke s r)
  | pSubmit (s : State) (h : s.ppc = .fire .cont) (hv : s.viaExec = true) :
      Step s (.submit .p) { s with ppc := .submitted }
  | pInvokeSub (s : State) (r : Res) (h : s.ppc = .submitted) (hr : s.stored = some r) :
      Step s (.invoke .p r) (doPInvoke s r)
  | pForward (s : State) (r : Res) (h : s.ppc = .fire .target) (hr : s.stored = some r) :
      Step s (.forward .p r) (doPForward s r)
  /-- MutexEvent::Set: lock, `_is_ready = true`, notify, unlock -/
  | pEvLock (s : State) (h : s.ppc = .fire .event) (hm : s.evHolder = none) : Step s (.lock .p) (doPEvLock s)
  | pEvUnlock (s : State) (h : s.ppc = .evLocked) : Step s (.unlock .p) { s with ppc := .done, evHolder := none }
  /-- SetCallbackImpl<false>: the pre-check load (may be stale) … -/
  | cAttLoad (s : State) (op : COp) (rest : List COp) (k : Cb) (x : Word)
      (h : s.cpc = .idle) (ht : s.todo = op :: rest) (hk : opCb op = some k) (hx : loadOk s x) :
      Step s (.cLoad x) (doAttLoad s op k x)
  /-- … and the strong CAS empty → callback -/
  | cCasOk (s : State) (k : Cb) (h : s.cpc = .attLoaded k) (hw : s.word = .empty) :
      Step s (.cCas k true) (doCasOk s k)
  | cCasFail (s : State) (k : Cb) (h : s.cpc = .attLoaded k) (hw : s.word ≠ .empty) :
      Step s (.cCas k false) (afterFail s k)
  /-- the consumer found the result: it runs its own callback inline (`Step(*this, callback)`) -/
  | cInvoke (s : State) (r : Res) (h : s.cpc = .attFailed .cont) (hv : s.viaExec = false) (hr : s.stored = some r) :
      Step s (.invoke .c r) (doCInvoke s r)
  | cSubmit (s : State) (h : s.cpc = .attFailed .cont) (hv : s.viaExec = true) :
      Step s (.submit .c) { s with cpc := .submitted }
  | cInvokeSub (s : State) (r : Res) (h : s.cpc = .submitted) (hr : s.stored = some r) :
      Step s (.invoke .c r) (doCInvoke s r)
  | cForward (s : State) (r : Res) (h : s.cpc = .attFailed .target) (hr : s.stored = some r) :
      Step s (.forward .c r) (doCForward s r)
  /-- Ready() / Get() const&: `BaseCore::Ready()` is one acquire load compared with kResult (stale allowed) -/
  | cReadyLoad (s : State) (rest : List COp) (x : Word) (h : s.cpc = .idle) (ht : s.todo = .pre .ready :: rest)
      (hx : loadOk s x) : Step s (.cLoad x) { s with cpc := .repReady (decide (x = .result)) }
  | cReady (s : State) (b : Bool) (h : s.cpc = .repReady b) : Step s (.ready b) (doCReady s b)
  | cGetcLoad (s : State) (rest : List COp) (x : Word) (h : s.cpc = .idle) (ht : s.todo = .pre .getc :: rest)
      (hx : loadOk s x) : Step s (.cLoad x) { s with cpc := .repGetc (decide (x = .result)) }
  | cGetc (s : State) (b : Bool) (h : s.cpc = .repGetc b) :
      Step s (.getc (if b then s.stored else none)) (doCGetc s b)
  /-- blocking wait on the MutexEvent -/
  | cWaitLock (s : State) (h : s.cpc = .waitAttached ∨ s.cpc = .waitSleeping) (hm : s.evHolder = none) :
      Step s (.lock .c) { s with cpc := .waitLocked s.evReady, evHolder := some .c }
  | cWaitSleep (s : State) (h : s.cpc = .waitLocked false) :
      Step s (.unlock .c) { s with cpc := .waitSleeping, evHolder := none }
  | cWaitDone (s : State) (h : s.cpc = .waitLocked true) : Step s (.unlock .c) (doCWaitDone s)
  | cGot (s : State) (r : Res) (h : s.cpc = .repGot) (hr : s.stored = some r) : Step s (.got r) (doCGot s r)

inductive Reachable (w : Workload) : State → Prop where
  | init : Reachable w (init w)
  | step {s l s'} : Reachable w s → Step s l s' → Reachable w s'

/-- executable transition function used by the trace validator (`ymdriver`) -/
def next (s : State) : Label → Option State
  | .pXchg old => if s.ppc = .start ∧ s.word ≠ .result ∧ old = s.word then some (doXchg s) else none
  | .invoke .p r =>
      if s.ppc = .fire .cont ∧ s.viaExec = false ∧ s.stored = some r then some (doPInvoke s r)
      else if s.ppc = .submitted ∧ s.stored = some r then some (doPInvoke s r) else none
  | .invoke .c r =>
      if s.cpc = .attFailed .cont ∧ s.viaExec = false ∧ s.stored = some r then some (doCInvoke s r)
      else if s.cpc = .submitted ∧ s.stored = some r then some (doCInvoke s r) else none
  | .submit .p => if s.ppc = .fire .cont ∧ s.viaExec = true then some { s with ppc := .submitted } else none
  | .submit .c => if s.cpc = .attFailed .cont ∧ s.viaExec = true then some { s with cpc := .submitted } else none
  | .forward .p r => if s.ppc = .fire .target ∧ s.stored = some r then some (doPForward s r) else none
  | .forward .c r => if s.cpc = .attFailed .target ∧ s.stored = some r then some (doCForward s r) else none
  | .lock .p => if s.ppc = .fire .event ∧ s.evHolder = none then some (doPEvLock s) else none
  | .unlock .p => if s.ppc = .evLocked then some { s with ppc := .done, evHolder := none } else none
  | .lock .c =>
      if (s.cpc = .waitAttached ∨ s.cpc = .waitSleeping) ∧ s.evHolder = none
      then some { s with cpc := .waitLocked s.evReady, evHolder := some .c } else none
  | .unlock .c =>
      if s.cpc = .waitLocked false then some { s with cpc := .waitSleeping, evHolder := none }
      else if s.cpc = .waitLocked true then some (doCWaitDone s) else none
  | .cLoad x =>
      if s.cpc = .idle ∧ loadOk s x then
        match s.todo with
        | .pre .ready :: _ => some { s with cpc := .repReady (decide (x = .result)) }
        | .pre .getc :: _ => some { s with cpc := .repGetc (decide (x = .result)) }
        | op :: _ => match opCb op with
            | some k => some (doAttLoad s op k x)
            | none => none
        | [] => none
      else none
  | .cCas k ok =>
      if s.cpc = .attLoaded k then
        if ok then (if s.word = .empty then some (doCasOk s k) else none)
        else (if s.word ≠ .empty then some (afterFail s k) else none)
      else none
  | .ready b => if s.cpc = .repReady b then some (doCReady s b) else none
  | .getc r =>
      match s.cpc with
      | .repGetc true => if r = s.stored then some (doCGetc s true) else none
      | .repGetc false => if r = none then some (doCGetc s false) else none
      | _ => none
  | .got r => if s.cpc = .repGot ∧ s.stored = some r then some (doCGot s r) else none

theorem next_sound {s : State} {l : Label} {s' : State} (h : next s l = some s') : Step s l s' := by
  cases l with
  | invoke t r =>
      cases t <;> simp only [next] at h <;> (repeat' split at h) <;> cases h <;> (repeat cases ‹_ ∧ _›)
      · exact .pInvoke s r ‹_› ‹_› ‹_›
      · exact .pInvokeSub s r ‹_› ‹_›
      · exact .cInvoke s r ‹_› ‹_› ‹_›
      · exact .cInvokeSub s r ‹_› ‹_›
  | getc r =>
      simp only [next] at h; (repeat' split at h) <;> cases h <;> subst_vars
      · exact .cGetc s true ‹_›
      · exact .cGetc s false ‹_›
  | _ =>
      (try cases ‹Tid›) <;> simp only [next] at h <;> (repeat' split at h) <;> cases h <;> (repeat cases ‹_ ∧ _›) <;>
        (try simp only [Bool.not_eq_true] at *) <;> subst_vars <;> constructor <;> first | assumption | simp_all

end Yaclib.Unique
