/-
C08 — FairThreadPool.

Written from /repo: `FairThreadPool::{FairThreadPool, Submit, SoftStop, Stop, HardStop, Wait, Loop, WasStop,
WantStop, NoJobs, Stop(unique_lock&&)}` (src/runtime/fair_thread_pool.cpp) and the FIFO `detail::List`
(src/util/intrusive_list.cpp: PushBack / PopFront / Empty / move constructor).

Everything the pool owns (`_jobs`, `_jobs_count`) is protected by the one mutex `_m`.  The model keeps the
packed counter word as it is in the source (a natural number manipulated only through the definitions that
`vlib/x_pool.py` extracts from the source on every run: `Extracted/PoolConsts.lean`) and the queue as a list.

Granularity: one step per `lock`, one per `unlock` of `_m`; the thread-local code of a critical section is
folded into the step that ends it (the `unlock`), so every critical section of the source is exactly one atomic
update of the protected record.  `_idle.wait(lock)` releases the mutex and parks in one step (that is the
contract of a condition variable and also what the fiber implementation does); `notify_one` wakes one parked
worker chosen by the scheduler (the label says which) or nobody if none is parked; `notify_all` wakes all;
a parked worker may also wake spuriously.  Jobs run outside the lock (`call`), Drops happen outside the lock.

Threads: `w.workers` workers running `Loop()`, one submitter per entry of `w.subs` (submitter `i` submits
`w.subs[i]` jobs one after the other; job identities are (submitter, sequence number) and therefore distinct),
at most one stopper calling one of Stop / SoftStop / HardStop at any moment, and `Wait()` (= join of every worker),
which can return as soon as every worker has left `Loop`.

The arithmetic on the counter is on ℕ: `-= 4` is truncated subtraction, and Props/C08.lean proves that it never
truncates (`counter_no_underflow`).  Wrap-around of `+= 4` at 2^64 (2^62 outstanding jobs) is outside the model.
-/
import YaclibModel.Extracted.PoolConsts

namespace Yaclib.Pool
open Yaclib.Extracted.PoolConsts

/-- a job: the `seq`-th job of submitter `sub` -/
structure JobId where
  sub : Nat
  seq : Nat
  deriving DecidableEq, Repr

inductive StopKind where
  | stop | soft | hard
  deriving DecidableEq, Repr

structure Workload where
  workers : Nat
  subs : List Nat                 -- number of jobs of each submitter
  stop : Option StopKind          -- what the stopper thread calls (none: nobody ever stops the pool)
  deriving Repr

inductive Tid where
  | worker (i : Nat) | sub (i : Nat) | stopper
  deriving DecidableEq, Repr

/-- program counter of a worker (`Loop`) -/
inductive WPc where
  | start                    -- thread created, `unique_lock lock{_m}` next
  | held (afterCall : Bool)  -- holds `_m`; `afterCall`: has just re-locked after a Call (`_jobs_count -= 4` next)
  | calling (j : JobId)      -- popped `j`, unlocked, `Call` next
  | relock                   -- `Call` returned, `lock.lock()` next
  | parked                   -- inside `_idle.wait`, mutex released
  | woken                    -- left the wait queue, re-acquiring the mutex next
  | stopping                 -- `Stop(lock)`: bit set, unlocked, `notify_all` next
  | exited                   -- returned from `Loop`
  deriving DecidableEq, Repr

/-- program counter of a submitter inside `Submit` -/
inductive SPc where
  | idle                     -- between two Submits
  | want                     -- `Submit(job)` called, `lock` next
  | held                     -- holds `_m`
  | dropping                 -- saw WasStop, unlocked, `job.Drop()` next
  | notifying                -- pushed, unlocked, `_idle.notify_one()` next
  deriving DecidableEq, Repr

structure Sub where
  pc : SPc
  k : Nat                    -- sequence number of the current / next job
  total : Nat
  deriving DecidableEq, Repr

/-- program counter of the stopper -/
inductive XPc where
  | idle                     -- has not called yet
  | want                     -- called, `lock` next
  | held
  | notifyAll                -- `Stop(lock)`: bit set, unlocked, `notify_all` next
  | dropping (rest : List JobId)   -- HardStop: Drop loop over the stolen list (never empty in this state)
  | done
  deriving DecidableEq, Repr

structure State where
  cnt : Nat                  -- `_jobs_count`
  queue : List JobId         -- `_jobs`
  locked : Bool              -- `_m`
  workers : List WPc
  subs : List Sub
  kind : Option StopKind
  xpc : XPc
  -- ghost history (only grows)
  submitted : List JobId     -- `Submit(j)` was called
  accepted : List JobId      -- pushed, in push order
  popped : List JobId        -- popped by a worker, in pop order
  started : List JobId       -- `Call` invoked, in that order (= the list of Calls)
  stolen : List JobId        -- the queue HardStop moved out
  rejected : List JobId      -- Dropped by `Submit` (pool already stopped)
  hardDropped : List JobId   -- Dropped by `HardStop`
  waitReturned : Bool
  deriving Repr

def init (w : Workload) : State :=
  { cnt := initCount, queue := [], locked := false,
    workers := List.replicate w.workers .start,
    subs := w.subs.map fun n => { pc := .idle, k := 0, total := n },
    kind := w.stop, xpc := if w.stop = none then .done else .idle,
    submitted := [], accepted := [], popped := [], started := [], stolen := [], rejected := [], hardDropped := [],
    waitReturned := false }

inductive Label where
  | submit (i : Nat) (j : JobId)             -- client: `Submit(j)` called by submitter i
  | stopBegin (k : StopKind)                 -- client: Stop / SoftStop / HardStop called
  | lock (t : Tid)
  | unlock (t : Tid)
  | call (i : Nat) (j : JobId)               -- worker i: `j.Call()`
  | drop (t : Tid) (j : JobId)               -- `j.Drop()` by a submitter (rejected) or the stopper (HardStop)
  | notifyOne (i : Nat) (woke : Option Nat)  -- submitter i: `_idle.notify_one()`, which worker it woke
  | notifyAll (t : Tid)                      -- `_idle.notify_all()` by the stopper or a worker
  | spurious (i : Nat)                       -- worker i wakes up without a notification
  | waitReturn                               -- `Wait()` returned (all workers joined)
  deriving DecidableEq, Repr

def Label.isSpurious : Label → Bool
  | .spurious _ => true
  | _ => false

/-- what a notification does to a worker -/
def wake : WPc → WPc
  | .parked => .woken
  | pc => pc

/-- the Drop loop of HardStop -/
def dropPc : List JobId → XPc
  | [] => .done
  | l => .dropping l

/-- the counter as the worker sees it when it evaluates the loop conditions -/
def cntAfter (afterCall : Bool) (c : Nat) : Nat := if afterCall then loopSub c else c

/-! effects of the individual steps (shared by the relation `Step` and the executable `next`) -/

def doSubmit (s : State) (i : Nat) (sb : Sub) : State :=
  { s with subs := s.subs.set i { sb with pc := .want }, submitted := s.submitted ++ [⟨i, sb.k⟩] }

def doSLock (s : State) (i : Nat) (sb : Sub) : State :=
  { s with subs := s.subs.set i { sb with pc := .held }, locked := true }

/-- Submit, pool not stopped: `_jobs.PushBack(job); _jobs_count += 4; lock.unlock()` -/
def doAccept (s : State) (i : Nat) (sb : Sub) : State :=
  { s with subs := s.subs.set i { sb with pc := .notifying }, locked := false,
           queue := s.queue ++ [⟨i, sb.k⟩], cnt := submitAdd s.cnt, accepted := s.accepted ++ [⟨i, sb.k⟩] }

/-- Submit, `WasStop()`: `lock.unlock()` -/
def doReject (s : State) (i : Nat) (sb : Sub) : State :=
  { s with subs := s.subs.set i { sb with pc := .dropping }, locked := false }

def doSDrop (s : State) (i : Nat) (sb : Sub) : State :=
  { s with subs := s.subs.set i { sb with pc := .idle, k := sb.k + 1 }, rejected := s.rejected ++ [⟨i, sb.k⟩] }

def doNotifyNone (s : State) (i : Nat) (sb : Sub) : State :=
  { s with subs := s.subs.set i { sb with pc := .idle, k := sb.k + 1 } }

def doNotifyOne (s : State) (i : Nat) (sb : Sub) (v : Nat) : State :=
  { s with subs := s.subs.set i { sb with pc := .idle, k := sb.k + 1 }, workers := s.workers.set v .woken }

def doWLock (s : State) (i : Nat) (afterCall : Bool) : State :=
  { s with workers := s.workers.set i (.held afterCall), locked := true }

/-- `auto& job = _jobs.PopFront(); lock.unlock()` -/
def doPop (s : State) (i : Nat) (b : Bool) (j : JobId) (rest : List JobId) : State :=
  { s with workers := s.workers.set i (.calling j), locked := false, queue := rest, cnt := cntAfter b s.cnt,
           popped := s.popped ++ [j] }

/-- `NoJobs() && WantStop()`: `Stop(std::move(lock))` = `_jobs_count |= 1; lock.unlock()` -/
def doWStop (s : State) (i : Nat) (b : Bool) : State :=
  { s with workers := s.workers.set i .stopping, locked := false, cnt := stopSet (cntAfter b s.cnt) }

/-- `WasStop()`: return (the unique_lock destructor unlocks) -/
def doWExit (s : State) (i : Nat) (b : Bool) : State :=
  { s with workers := s.workers.set i .exited, locked := false, cnt := cntAfter b s.cnt }

/-- `_idle.wait(lock)`: release the mutex and park -/
def doWWait (s : State) (i : Nat) (b : Bool) : State :=
  { s with workers := s.workers.set i .parked, locked := false, cnt := cntAfter b s.cnt }

def doCall (s : State) (i : Nat) (j : JobId) : State :=
  { s with workers := s.workers.set i .relock, started := s.started ++ [j] }

def doWNotifyAll (s : State) (i : Nat) : State :=
  { s with workers := (s.workers.set i .exited).map wake }

def doSpurious (s : State) (i : Nat) : State :=
  { s with workers := s.workers.set i .woken }

def doXLock (s : State) : State := { s with xpc := .held, locked := true }

/-- Stop(), or SoftStop() with `NoJobs()`: `_jobs_count |= 1; lock.unlock()` -/
def doXStop (s : State) : State := { s with xpc := .notifyAll, locked := false, cnt := stopSet s.cnt }

/-- SoftStop() with jobs outstanding: `_jobs_count |= 2` (the unique_lock destructor unlocks) -/
def doXSoftWant (s : State) : State := { s with xpc := .done, locked := false, cnt := softWant s.cnt }

/-- HardStop(): `List jobs{std::move(_jobs)}; _jobs_count |= 1; lock.unlock()` -/
def doXHard (s : State) : State :=
  { s with xpc := .notifyAll, locked := false, cnt := stopSet s.cnt, stolen := s.queue, queue := [] }

def doXNotifyAll (s : State) : State :=
  { s with workers := s.workers.map wake, xpc := if s.kind = some .hard then dropPc s.stolen else .done }

def doXDrop (s : State) (j : JobId) (rest : List JobId) : State :=
  { s with xpc := dropPc rest, hardDropped := s.hardDropped ++ [j] }

inductive Step : State → Label → State → Prop where
  /-- a submitter calls `Submit(job)` -/
  | sBegin (s : State) (i : Nat) (sb : Sub) (h : s.subs[i]? = some sb) (hpc : sb.pc = .idle) (hk : sb.k < sb.total) :
      Step s (.submit i ⟨i, sb.k⟩) (doSubmit s i sb)
  | sLock (s : State) (i : Nat) (sb : Sub) (h : s.subs[i]? = some sb) (hpc : sb.pc = .want) (hl : s.locked = false) :
      Step s (.lock (.sub i)) (doSLock s i sb)
  | sAccept (s : State) (i : Nat) (sb : Sub) (h : s.subs[i]? = some sb) (hpc : sb.pc = .held)
      (hw : wasStop s.cnt = false) : Step s (.unlock (.sub i)) (doAccept s i sb)
  | sReject (s : State) (i : Nat) (sb : Sub) (h : s.subs[i]? = some sb) (hpc : sb.pc = .held)
      (hw : wasStop s.cnt = true) : Step s (.unlock (.sub i)) (doReject s i sb)
  | sDrop (s : State) (i : Nat) (sb : Sub) (h : s.subs[i]? = some sb) (hpc : sb.pc = .dropping) :
      Step s (.drop (.sub i) ⟨i, sb.k⟩) (doSDrop s i sb)
  /-- `_idle.notify_one()` with nobody waiting -/
  | sNotifyNone (s : State) (i : Nat) (sb : Sub) (h : s.subs[i]? = some sb) (hpc : sb.pc = .notifying)
      (hn : WPc.parked ∉ s.workers) : Step s (.notifyOne i none) (doNotifyNone s i sb)
  /-- `_idle.notify_one()` wakes the parked worker `v` -/
  | sNotifyOne (s : State) (i : Nat) (sb : Sub) (v : Nat) (h : s.subs[i]? = some sb) (hpc : sb.pc = .notifying)
      (hv : s.workers[v]? = some .parked) : Step s (.notifyOne i (some v)) (doNotifyOne s i sb v)
  /-- a worker acquires the mutex: on entry to `Loop` or when returning from `_idle.wait` … -/
  | wLock (s : State) (i : Nat) (pc : WPc) (h : s.workers[i]? = some pc) (hpc : pc = .start ∨ pc = .woken)
      (hl : s.locked = false) : Step s (.lock (.worker i)) (doWLock s i false)
  /-- … or after a Call -/
  | wRelock (s : State) (i : Nat) (h : s.workers[i]? = some .relock) (hl : s.locked = false) :
      Step s (.lock (.worker i)) (doWLock s i true)
  /-- the worker's critical section ends by popping a job … -/
  | wPop (s : State) (i : Nat) (b : Bool) (j : JobId) (rest : List JobId) (h : s.workers[i]? = some (.held b))
      (hq : s.queue = j :: rest) : Step s (.unlock (.worker i)) (doPop s i b j rest)
  /-- … by `Stop(std::move(lock))` … -/
  | wStop (s : State) (i : Nat) (b : Bool) (h : s.workers[i]? = some (.held b)) (hq : s.queue = [])
      (hc : (noJobs (cntAfter b s.cnt) && wantStop (cntAfter b s.cnt)) = true) :
      Step s (.unlock (.worker i)) (doWStop s i b)
  /-- … by returning … -/
  | wExit (s : State) (i : Nat) (b : Bool) (h : s.workers[i]? = some (.held b)) (hq : s.queue = [])
      (hc : (noJobs (cntAfter b s.cnt) && wantStop (cntAfter b s.cnt)) = false)
      (hw : wasStop (cntAfter b s.cnt) = true) : Step s (.unlock (.worker i)) (doWExit s i b)
  /-- … or by waiting -/
  | wWait (s : State) (i : Nat) (b : Bool) (h : s.workers[i]? = some (.held b)) (hq : s.queue = [])
      (hc : (noJobs (cntAfter b s.cnt) && wantStop (cntAfter b s.cnt)) = false)
      (hw : wasStop (cntAfter b s.cnt) = false) : Step s (.unlock (.worker i)) (doWWait s i b)
  | wCall (s : State) (i : Nat) (j : JobId) (h : s.workers[i]? = some (.calling j)) : Step s (.call i j) (doCall s i j)
  | wNotifyAll (s : State) (i : Nat) (h : s.workers[i]? = some .stopping) :
      Step s (.notifyAll (.worker i)) (doWNotifyAll s i)
  | wSpurious (s : State) (i : Nat) (h : s.workers[i]? = some .parked) : Step s (.spurious i) (doSpurious s i)
  /-- the stopper -/
  | xBegin (s : State) (k : StopKind) (h : s.xpc = .idle) (hk : s.kind = some k) :
      Step s (.stopBegin k) { s with xpc := .want }
  | xLock (s : State) (h : s.xpc = .want) (hl : s.locked = false) : Step s (.lock .stopper) (doXLock s)
  | xStop (s : State) (h : s.xpc = .held) (hk : s.kind = some .stop) : Step s (.unlock .stopper) (doXStop s)
  | xSoftNow (s : State) (h : s.xpc = .held) (hk : s.kind = some .soft) (hn : noJobs s.cnt = true) :
      Step s (.unlock .stopper) (doXStop s)
  | xSoftWant (s : State) (h : s.xpc = .held) (hk : s.kind = some .soft) (hn : noJobs s.cnt = false) :
      Step s (.unlock .stopper) (doXSoftWant s)
  | xHard (s : State) (h : s.xpc = .held) (hk : s.kind = some .hard) : Step s (.unlock .stopper) (doXHard s)
  | xNotifyAll (s : State) (h : s.xpc = .notifyAll) : Step s (.notifyAll .stopper) (doXNotifyAll s)
  | xDrop (s : State) (j : JobId) (rest : List JobId) (h : s.xpc = .dropping (j :: rest)) :
      Step s (.drop .stopper j) (doXDrop s j rest)
  /-- `Wait()`: every `worker.join()` has returned -/
  | waitRet (s : State) (h : ∀ pc ∈ s.workers, pc = .exited) (hr : s.waitReturned = false) :
      Step s .waitReturn { s with waitReturned := true }

inductive Reachable (w : Workload) : State → Prop where
  | init : Reachable w (init w)
  | step {s l s'} : Reachable w s → Step s l s' → Reachable w s'

/-- executable transition function used by the trace validator (`ymdriver`) -/
def next (s : State) : Label → Option State
  | .submit i j =>
      match s.subs[i]? with
      | some sb => if sb.pc = .idle ∧ sb.k < sb.total ∧ j = ⟨i, sb.k⟩ then some (doSubmit s i sb) else none
      | none => none
  | .stopBegin k => if s.xpc = .idle ∧ s.kind = some k then some { s with xpc := .want } else none
  | .lock (.sub i) =>
      match s.subs[i]? with
      | some sb => if sb.pc = .want ∧ s.locked = false then some (doSLock s i sb) else none
      | none => none
  | .lock (.worker i) =>
      match s.workers[i]? with
      | some .relock => if s.locked = false then some (doWLock s i true) else none
      | some pc => if (pc = .start ∨ pc = .woken) ∧ s.locked = false then some (doWLock s i false) else none
      | none => none
  | .lock .stopper => if s.xpc = .want ∧ s.locked = false then some (doXLock s) else none
  | .unlock (.sub i) =>
      match s.subs[i]? with
      | some sb =>
          if sb.pc = .held then (if wasStop s.cnt = true then some (doReject s i sb) else some (doAccept s i sb))
          else none
      | none => none
  | .unlock (.worker i) =>
      match s.workers[i]? with
      | some (.held b) =>
          match s.queue with
          | j :: rest => some (doPop s i b j rest)
          | [] =>
              if (noJobs (cntAfter b s.cnt) && wantStop (cntAfter b s.cnt)) = true then some (doWStop s i b)
              else if wasStop (cntAfter b s.cnt) = true then some (doWExit s i b)
              else some (doWWait s i b)
      | _ => none
  | .unlock .stopper =>
      if s.xpc = .held then
        match s.kind with
        | some .stop => some (doXStop s)
        | some .soft => if noJobs s.cnt = true then some (doXStop s) else some (doXSoftWant s)
        | some .hard => some (doXHard s)
        | none => none
      else none
  | .call i j => if s.workers[i]? = some (.calling j) then some (doCall s i j) else none
  | .drop (.sub i) j =>
      match s.subs[i]? with
      | some sb => if sb.pc = .dropping ∧ j = ⟨i, sb.k⟩ then some (doSDrop s i sb) else none
      | none => none
  | .drop .stopper j =>
      match s.xpc with
      | .dropping (j' :: rest) => if j = j' then some (doXDrop s j rest) else none
      | _ => none
  | .drop (.worker _) _ => none
  | .notifyOne i none =>
      match s.subs[i]? with
      | some sb => if sb.pc = .notifying ∧ WPc.parked ∉ s.workers then some (doNotifyNone s i sb) else none
      | none => none
  | .notifyOne i (some v) =>
      match s.subs[i]? with
      | some sb =>
          if sb.pc = .notifying ∧ s.workers[v]? = some .parked then some (doNotifyOne s i sb v) else none
      | none => none
  | .notifyAll (.worker i) => if s.workers[i]? = some .stopping then some (doWNotifyAll s i) else none
  | .notifyAll .stopper => if s.xpc = .notifyAll then some (doXNotifyAll s) else none
  | .notifyAll (.sub _) => none
  | .spurious i => if s.workers[i]? = some .parked then some (doSpurious s i) else none
  | .waitReturn =>
      if (∀ pc ∈ s.workers, pc = .exited) ∧ s.waitReturned = false then some { s with waitReturned := true } else none

theorem next_sound {s : State} {l : Label} {s' : State} (h : next s l = some s') : Step s l s' := by
  cases l <;> (try cases ‹Tid›) <;> (try cases ‹Option _›) <;> simp only [next] at h
  case unlock.stopper =>
    (repeat' split at h) <;> cases h
    · exact .xStop s ‹_› ‹_›
    · exact .xSoftNow s ‹_› ‹_› ‹_›
    · exact .xSoftWant s ‹_› ‹_› (by simp_all)
    · exact .xHard s ‹_› ‹_›
  all_goals
    (repeat' split at h) <;> cases h <;> (repeat cases ‹_ ∧ _›) <;>
      (try simp only [Bool.not_eq_true] at *) <;> subst_vars <;> constructor <;> first | assumption | simp_all

end Yaclib.Pool
