/-
C07 — Strand: the lock-free MPSC inbox with an idle marker (src/exe/strand.cpp).

Written from /repo: `Strand::Submit` (relaxed load, weak-CAS push loop, whoever replaces the idle marker
schedules the strand on the underlying executor), `Strand::Call` (`exchange(nullptr)`, reverse, Call every
job, `load` + strong CAS `nullptr → Mark()` or resubmit itself) and `Strand::Drop` (`exchange(Mark())`,
Drop every job **in inbox order, i.e. most recently pushed first**).

Granularity: one step per atomic operation on `_jobs` (`load`, each `compare_exchange_weak` attempt,
`exchange`, `compare_exchange_strong`) and per observable event (job body entered / left, job dropped,
`_executor->Submit(*this)`).  Thread-local code between two such operations is folded into the following
step (building `job.next`, reversing the batch, `IncRef`/`DecRef` of the strand's own reference counter,
which is a different atomic object and is accounted for by C03).

Threads: unboundedly many submitters `i = 0, 1, …` (submitter `i` submits the jobs `⟨i, 0⟩, ⟨i, 1⟩, …,
⟨i, w[i] - 1⟩` in program order) and unboundedly many *activations* `a = 0, 1, …` of the strand (the strand
as a `Job` of the underlying executor).  The underlying executor is the most general executor that honours
the `IExecutor` contract: every activation handed to it is started exactly once, at any later moment,
either as `Call` or as `Drop`, on any thread (also inline inside `Submit`), concurrently with anything
else.  Nothing in the model restricts the number of activations that run at the same time — that at most
one does is a theorem.

Stale loads: the relaxed pre-check loads (`Submit` line 25, `Call` line 49) and the value a failed CAS
reads may be older values of the word permitted by coherence; the model over-approximates them
(`loadOk`: any value the word ever had; the batch runner may still see its own `nullptr`).
-/
namespace Yaclib.Strand

/-- job `idx` (in program order) of submitter `sub` -/
structure JobId where
  sub : Nat
  idx : Nat
  deriving DecidableEq, Repr

/-- a pointer value as seen by a load / kept in `expected` -/
inductive Ptr where
  | mark                -- `Mark()` = the strand itself: idle
  | null                -- scheduled, inbox empty
  | job (j : JobId)     -- head of the inbox
  deriving DecidableEq, Repr

/-- `_jobs`: the idle marker or the intrusive LIFO list (head = most recently pushed; `list []` = nullptr) -/
inductive Word where
  | mark
  | list (js : List JobId)
  deriving DecidableEq, Repr

def Word.head : Word → Ptr
  | .mark => .mark
  | .list [] => .null
  | .list (j :: _) => .job j

def Word.inbox : Word → List JobId
  | .mark => []
  | .list js => js

def Word.nonempty : Word → Bool
  | .list (_ :: _) => true
  | _ => false

/-- number of jobs of each submitter: `jobs[i]` for the listed submitters, `rest` for every other one
    (`rest = 0`: a closed system with finitely many submitters; `⟨[], 1⟩`: the strand as an open executor, every
    client job is handed over by its own `Submit` call — used for the lower levels of a tower of strands) -/
structure Workload where
  jobs : List Nat
  rest : Nat := 0
  deriving Repr

instance : Coe (List Nat) Workload := ⟨fun l => { jobs := l }⟩

def jobsOf (w : Workload) (i : Nat) : Nat := w.jobs.getD i w.rest

/-- submitter program counter (inside `Strand::Submit`) -/
inductive SPc where
  | idle                -- between two Submits (or finished)
  | cas (exp : Ptr)     -- in the CAS loop, `expected = exp`
  | sched               -- the CAS replaced the idle marker: `IncRef(); _executor->Submit(*this)` next
  deriving DecidableEq, Repr

/-- activation program counter (`Strand::Call` / `Strand::Drop` run by the underlying executor) -/
inductive APc where
  | none                                  -- not created yet
  | queued                                -- handed to the underlying executor, not started
  | run (rem : List JobId)                -- Call: batch exchanged and reversed, `rem` still to be Called
  | busy (j : JobId) (rem : List JobId)   -- Call: inside the body of `j`
  | cas                                   -- Call: the final load saw nullptr, strong CAS next
  | resub                                 -- Call: must `_executor->Submit(*this)` again
  | drain (rem : List JobId)              -- Drop: exchanged, `rem` still to be Dropped (inbox order)
  | crashed                               -- dereferenced nullptr / the marker (`node->next` on an empty batch)
  | done
  deriving DecidableEq, Repr

/-- ghost: who is responsible for the strand being scheduled (owner of the "token") -/
inductive Holder where
  | sub (i : Nat)
  | act (a : Nat)
  deriving DecidableEq, Repr

structure State where
  w : Workload
  word : Word
  spc : Nat → SPc
  sidx : Nat → Nat                 -- number of successful pushes of submitter i = index of its current job
  acts : Nat → APc
  nacts : Nat                      -- activations created so far (`_executor->Submit(*this)` calls)
  -- ghost history
  holder : Option Holder
  pushOrder : List JobId           -- order of the successful CASes of Submit
  taken : List (JobId × Bool)      -- jobs removed from the inbox by an exchange, in push order; true = by Call
  takenBy : JobId → Nat            -- which activation removed it
  executed : List JobId            -- order in which job bodies were entered (Call)
  dropped : List JobId             -- order in which jobs were Dropped
  running : Nat                    -- job bodies entered and not left
  execDrops : Nat                  -- activations the underlying executor refused (started as Drop)

def init (w : Workload) : State :=
  { w := w, word := .mark, spc := fun _ => .idle, sidx := fun _ => 0, acts := fun _ => .none, nacts := 0,
    holder := none, pushOrder := [], taken := [], takenBy := fun _ => 0, executed := [], dropped := [],
    running := 0, execDrops := 0 }

inductive Label where
  | sLoad (i : Nat) (v : Ptr)        -- `_jobs.load(relaxed)` → v
  | sCasOk (i : Nat)                 -- `compare_exchange_weak(expected, &job, acq_rel, relaxed)` succeeded
  | sCasFail (i : Nat) (v : Ptr)     -- … failed, `expected` reloaded with v ≠ expected
  | sCasSpur (i : Nat)               -- … failed spuriously (`expected` unchanged)
  | sSched (i : Nat)                 -- `_executor->Submit(*this)` by the submitter that replaced the marker
  | aCall (a : Nat)                  -- the underlying executor Calls activation a: `exchange(nullptr, acquire)`
  | aBegin (a : Nat) (j : JobId)     -- body of j entered
  | aEnd (a : Nat) (j : JobId)       -- body of j left
  | aLoad (a : Nat) (sawNull : Bool) -- `_jobs.load(relaxed) == nullptr`
  | aCasOk (a : Nat)                 -- `compare_exchange_strong(nullptr, Mark(), release, relaxed)` succeeded
  | aCasFail (a : Nat)               -- … failed
  | aResub (a : Nat)                 -- `_executor->Submit(*this)` by the batch runner
  | aDropX (a : Nat)                 -- the underlying executor Drops activation a: `exchange(Mark(), acq_rel)`
  | aDrop (a : Nat) (j : JobId)      -- job j Dropped
  deriving DecidableEq, Repr

/-- the strand thread a label belongs to -/
def Label.actor : Label → Holder
  | .sLoad i _ | .sCasOk i | .sCasFail i _ | .sCasSpur i | .sSched i => .sub i
  | .aCall a | .aBegin a _ | .aEnd a _ | .aLoad a _ | .aCasOk a | .aCasFail a | .aResub a | .aDropX a
  | .aDrop a _ => .act a

/-- ghost tag of a job removed from the inbox: by a Call (`true`) or by a Drop (`false`) exchange -/
def tag (b : Bool) (j : JobId) : JobId × Bool := (j, b)

def upd {α : Type} (f : Nat → α) (i : Nat) (v : α) : Nat → α := fun x => if x = i then v else f x

/-- a stale value a relaxed load (or the read of a failed CAS) may still return -/
def staleOk (s : State) : Ptr → Prop
  | .job j => j ∈ s.pushOrder
  | _ => True

instance (s : State) (v : Ptr) : Decidable (staleOk s v) := by
  cases v <;> simp only [staleOk] <;> exact inferInstance

def loadOk (s : State) (v : Ptr) : Prop := v = s.word.head ∨ staleOk s v

instance (s : State) (v : Ptr) : Decidable (loadOk s v) := by unfold loadOk; exact inferInstance

/-! effects of the individual steps (shared by `Step` and `next`) -/

/-- `expected := v` (first load, or reload by a failed CAS) -/
def doLoad (s : State) (i : Nat) (v : Ptr) : State := { s with spc := upd s.spc i (.cas v) }

/-- successful push: `job.next = expected == Mark() ? nullptr : expected`, the word points to the job -/
def doCasOk (s : State) (i : Nat) (exp : Ptr) : State :=
  let j : JobId := ⟨i, s.sidx i⟩
  { s with word := .list (j :: s.word.inbox), sidx := upd s.sidx i (s.sidx i + 1),
           pushOrder := s.pushOrder ++ [j],
           spc := upd s.spc i (if exp = .mark then .sched else .idle),
           holder := if exp = .mark then some (.sub i) else s.holder }

def doSched (s : State) (i : Nat) : State :=
  { s with spc := upd s.spc i .idle, acts := upd s.acts s.nacts .queued, nacts := s.nacts + 1,
           holder := some (.act s.nacts) }

/-- `Strand::Call`: `exchange(nullptr)` and the reversal of the batch -/
def doCall (s : State) (a : Nat) : State :=
  match s.word with
  | .list (j :: js) =>
      { s with word := .list [], acts := upd s.acts a (.run (j :: js).reverse),
               taken := s.taken ++ (j :: js).reverse.map (tag true),
               takenBy := fun x => if x ∈ j :: js then a else s.takenBy x }
  | _ => { s with word := .list [], acts := upd s.acts a .crashed }

def doBegin (s : State) (a : Nat) (j : JobId) (rem : List JobId) : State :=
  { s with acts := upd s.acts a (.busy j rem), executed := s.executed ++ [j], running := s.running + 1 }

def doEnd (s : State) (a : Nat) (rem : List JobId) : State :=
  { s with acts := upd s.acts a (.run rem), running := s.running - 1 }

def doALoad (s : State) (a : Nat) (sawNull : Bool) : State :=
  { s with acts := upd s.acts a (if sawNull then .cas else .resub) }

def doACasOk (s : State) (a : Nat) : State :=
  { s with word := .mark, acts := upd s.acts a .done, holder := none }

def doACasFail (s : State) (a : Nat) : State := { s with acts := upd s.acts a .resub }

def doResub (s : State) (a : Nat) : State :=
  { s with acts := upd (upd s.acts a .done) s.nacts .queued, nacts := s.nacts + 1, holder := some (.act s.nacts) }

/-- `Strand::Drop`: `exchange(Mark())` -/
def doDropX (s : State) (a : Nat) : State :=
  match s.word with
  | .list (j :: js) =>
      { s with word := .mark, acts := upd s.acts a (.drain (j :: js)), holder := none,
               taken := s.taken ++ (j :: js).reverse.map (tag false),
               takenBy := fun x => if x ∈ j :: js then a else s.takenBy x, execDrops := s.execDrops + 1 }
  | _ => { s with word := .mark, acts := upd s.acts a .crashed, holder := none, execDrops := s.execDrops + 1 }

def doDrop (s : State) (a : Nat) (j : JobId) (rem : List JobId) : State :=
  { s with acts := upd s.acts a (if rem = [] then .done else .drain rem), dropped := s.dropped ++ [j] }

inductive Step : State → Label → State → Prop where
  /-- Submit: `auto* expected = _jobs.load(relaxed)` (may be stale) -/
  | sLoad (s : State) (i : Nat) (v : Ptr) (h : s.spc i = .idle) (hj : s.sidx i < jobsOf s.w i) (hv : loadOk s v) :
      Step s (.sLoad i v) (doLoad s i v)
  /-- the weak CAS succeeds: the word holds exactly the expected pointer -/
  | sCasOk (s : State) (i : Nat) (exp : Ptr) (h : s.spc i = .cas exp) (he : exp = s.word.head) :
      Step s (.sCasOk i) (doCasOk s i exp)
  /-- the CAS read something else (possibly stale) -/
  | sCasFail (s : State) (i : Nat) (exp v : Ptr) (h : s.spc i = .cas exp) (hne : v ≠ exp) (hv : loadOk s v) :
      Step s (.sCasFail i v) (doLoad s i v)
  | sCasSpur (s : State) (i : Nat) (exp : Ptr) (h : s.spc i = .cas exp) : Step s (.sCasSpur i) s
  /-- `if (expected == Mark()) { IncRef(); _executor->Submit(*this); }` -/
  | sSched (s : State) (i : Nat) (h : s.spc i = .sched) : Step s (.sSched i) (doSched s i)
  /-- the underlying executor starts a queued activation as Call … -/
  | aCall (s : State) (a : Nat) (h : s.acts a = .queued) : Step s (.aCall a) (doCall s a)
  | aBegin (s : State) (a : Nat) (j : JobId) (rem : List JobId) (h : s.acts a = .run (j :: rem)) :
      Step s (.aBegin a j) (doBegin s a j rem)
  | aEnd (s : State) (a : Nat) (j : JobId) (rem : List JobId) (h : s.acts a = .busy j rem) :
      Step s (.aEnd a j) (doEnd s a rem)
  /-- `_jobs.load(relaxed) == node` (node = nullptr after the reversal); the runner may still see its own nullptr -/
  | aLoad (s : State) (a : Nat) (sawNull : Bool) (h : s.acts a = .run [])
      (hv : sawNull = false → s.word.nonempty = true) : Step s (.aLoad a sawNull) (doALoad s a sawNull)
  | aCasOk (s : State) (a : Nat) (h : s.acts a = .cas) (hw : s.word = .list []) : Step s (.aCasOk a) (doACasOk s a)
  | aCasFail (s : State) (a : Nat) (h : s.acts a = .cas) (hw : s.word ≠ .list []) :
      Step s (.aCasFail a) (doACasFail s a)
  | aResub (s : State) (a : Nat) (h : s.acts a = .resub) : Step s (.aResub a) (doResub s a)
  /-- … or as Drop (it refuses work) -/
  | aDropX (s : State) (a : Nat) (h : s.acts a = .queued) : Step s (.aDropX a) (doDropX s a)
  | aDrop (s : State) (a : Nat) (j : JobId) (rem : List JobId) (h : s.acts a = .drain (j :: rem)) :
      Step s (.aDrop a j) (doDrop s a j rem)

inductive Reachable (w : Workload) : State → Prop where
  | init : Reachable w (init w)
  | step {s l s'} : Reachable w s → Step s l s' → Reachable w s'

/-- executable transition function used by the trace validator (`ymdriver`) -/
def next (s : State) : Label → Option State
  | .sLoad i v => if s.spc i = .idle ∧ s.sidx i < jobsOf s.w i ∧ loadOk s v then some (doLoad s i v) else none
  | .sCasOk i =>
      match s.spc i with
      | .cas exp => if exp = s.word.head then some (doCasOk s i exp) else none
      | _ => none
  | .sCasFail i v =>
      match s.spc i with
      | .cas exp => if v ≠ exp ∧ loadOk s v then some (doLoad s i v) else none
      | _ => none
  | .sCasSpur i =>
      match s.spc i with
      | .cas _ => some s
      | _ => none
  | .sSched i => if s.spc i = .sched then some (doSched s i) else none
  | .aCall a => if s.acts a = .queued then some (doCall s a) else none
  | .aBegin a j =>
      match s.acts a with
      | .run (j' :: rem) => if j' = j then some (doBegin s a j rem) else none
      | _ => none
  | .aEnd a j =>
      match s.acts a with
      | .busy j' rem => if j' = j then some (doEnd s a rem) else none
      | _ => none
  | .aLoad a sawNull =>
      if s.acts a = .run [] ∧ (sawNull = false → s.word.nonempty = true) then some (doALoad s a sawNull) else none
  | .aCasOk a => if s.acts a = .cas ∧ s.word = .list [] then some (doACasOk s a) else none
  | .aCasFail a => if s.acts a = .cas ∧ s.word ≠ .list [] then some (doACasFail s a) else none
  | .aResub a => if s.acts a = .resub then some (doResub s a) else none
  | .aDropX a => if s.acts a = .queued then some (doDropX s a) else none
  | .aDrop a j =>
      match s.acts a with
      | .drain (j' :: rem) => if j' = j then some (doDrop s a j rem) else none
      | _ => none

theorem next_sound {s : State} {l : Label} {s' : State} (h : next s l = some s') : Step s l s' := by
  cases l <;> simp only [next] at h <;> (repeat' split at h) <;> cases h <;> (repeat cases ‹_ ∧ _›) <;>
    (try simp only [Bool.not_eq_true] at *) <;> subst_vars <;> constructor <;> first | assumption | simp_all

end Yaclib.Strand
