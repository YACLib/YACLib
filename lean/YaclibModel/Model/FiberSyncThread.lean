/-
C18 — model `Th` of `fiber::Thread::join`, `this_thread::sleep_for` and the thread-local pointer proxy.

Written from /repo: src/fault/fiber/{thread,fiber_base,thread_local_proxy,scheduler}.cpp,
include/yaclib/fault/detail/fiber/thread_local_proxy.hpp, include/yaclib_std/detail/this_thread.hpp
(scheduler abstraction and conventions as in Model/FiberSync.lean).

Thread-local pointers: any number of variables `YACLIB_THREAD_LOCAL_PTR(T) x{initialiser};`, numbered by the one global
index counter (`NextFreeIndex()`), of any pointee types.  The workload gives the initialiser of every variable
(`none` = declared without one / with nullptr); the constructor stores a non-null initialiser in the process-wide
defaults map (`SetDefault`), which nothing else writes.  A pointer value is `Option Nat` (`none` = nullptr); a fiber's
slot is `Option (Option Nat)`: `none` = the fiber has no entry for the variable (`_tls.find(i) == _tls.end()`), `some none` =
it stored nullptr — the difference matters exactly when the initialiser is not null.

History: until the fix commit 33c5ab3 the code had
  D13  the index counter was a static member of the class *template* (one per pointee type) while the per-fiber map and
       the defaults map are keyed by the index alone: an `int*` and a `long*` variable shared slot 0 — scenario
       `tls f0=GL,P1,GL f1=GL,G` (`f0 tls_getl -> -1; tls_set 1; tls_getl -> 1`, every schedule);
  D14  `ThreadLocalPtrProxy::operator=(const ThreadLocalPtrProxy&)` (`q = p`) called `SetDefault`, i.e. wrote the
       process-wide default of `q`: other fibers saw the value, a fiber that had assigned `q` itself did not see its own
       copy — scenarios `tls f0=P1,C,GQ,E,GQ f1=GQ,P2,E,GQ` and `tls f0=PQ3,GQ,P1,C,GQ f1=GQ,PQ2,GQ` (every schedule),
and this model contained them (two variables + an aliasing third; see git history and notes/C18.md).  It now describes
the repaired code: `Set(GetImpl(other._i), _i)` in the copy assignment, one slot per variable.
-/
import YaclibModel.Model.FiberSync

namespace Yaclib.FiberSync.Th
open Yaclib.FiberSync

inductive Pc where
  | idle | done
  | joining (k : Fid)          -- inside `Thread::join`: `while (state != Completed) { SetJoiningFiber(me); Suspend(); }`
  | sleeping (dl : Nat)
  deriving DecidableEq, Repr

abbrev Var := Nat
abbrev Ptr := Option Nat       -- `none` = nullptr

structure State where
  pc : Fid → Pc
  fin : Fid → Bool                      -- `FiberBase::_state == Completed` (the thread function returned, `Exit()` ran)
  slot : Var → Fid → Option Ptr         -- `FiberBase::_tls` of each fiber
  dflt : Var → Ptr                      -- `sDefaults` (thread_local_proxy.cpp), written by the constructors only
  now : Nat
  -- ghost
  last : Var → Fid → Option Ptr         -- what this fiber itself last assigned to the variable (`none` = never)

/-- `inits v` = the initialiser variable `v` was declared with -/
def init (inits : Var → Ptr) (n : Nat) : State :=
  { pc := fun g => if g < n then .idle else .done, fin := fun _ => false, slot := fun _ _ => none, dflt := inits, now := 0,
    last := fun _ _ => none }

/-- `FiberBase::GetTLS(i, defaults)`: own entry (whatever it holds), else the default -/
def read (s : State) (v : Var) (f : Fid) : Ptr := match s.slot v f with | some x => x | none => s.dflt v

/-- what `thread_local T* x = initialiser;` semantics say the fiber reads -/
def specRead (inits : Var → Ptr) (s : State) (v : Var) (f : Fid) : Ptr :=
  match s.last v f with | some x => x | none => inits v

inductive Label where
  | joinStart (f k : Fid)                 -- `f E call join k`
  | joinRet (f k : Fid)                   -- `f E ret join k`
  | work (f : Fid)                        -- `f E work`
  | finish (f : Fid)                      -- `f E done`
  | set (f : Fid) (v : Var) (x : Ptr)     -- `x_v = ptr` (`operator=(Type*)`: `Set(value, _i)` → `SetTLS`)
  | get (f : Fid) (v : Var) (r : Ptr)     -- `x_v.Get()`
  | copy (f : Fid) (dst src : Var)        -- `x_dst = x_src` (`Set(GetImpl(other._i), _i)`)
  | sleepStart (f : Fid) (t d : Nat) | sleepWake (f : Fid) (t : Nat)
  deriving DecidableEq, Repr

/-- `FiberBase::SetTLS(i, value)`: `_tls[i] = value` — also for a null value -/
def doSet (s : State) (f : Fid) (v : Var) (x : Ptr) : State :=
  { s with slot := upd s.slot v (upd (s.slot v) f (some x)), last := upd s.last v (upd (s.last v) f (some x)) }

inductive Step : State → Label → State → Prop where
  | joinStart (s : State) (f k : Fid) (h : s.pc f = .idle) : Step s (.joinStart f k) { s with pc := upd s.pc f (.joining k) }
  /-- leaves the loop only when the joined fiber is `Completed` -/
  | joinRet (s : State) (f k : Fid) (h : s.pc f = .joining k) (hf : s.fin k = true) :
      Step s (.joinRet f k) { s with pc := upd s.pc f .idle }
  | work (s : State) (f : Fid) (h : s.pc f = .idle) : Step s (.work f) s
  /-- the thread function returns: `FiberBase::Exit` (`_state = Completed`, schedules the joiner) -/
  | finish (s : State) (f : Fid) (h : s.pc f = .idle) :
      Step s (.finish f) { s with pc := upd s.pc f .done, fin := upd s.fin f true }
  | set (s : State) (f : Fid) (v : Var) (x : Ptr) (h : s.pc f = .idle) : Step s (.set f v x) (doSet s f v x)
  | get (s : State) (f : Fid) (v : Var) (h : s.pc f = .idle) : Step s (.get f v (read s v f)) s
  | copy (s : State) (f : Fid) (dst src : Var) (h : s.pc f = .idle) :
      Step s (.copy f dst src) (doSet s f dst (read s src f))
  | sleepStart (s : State) (f : Fid) (t d : Nat) (h : s.pc f = .idle) (ht : s.now ≤ t) :
      Step s (.sleepStart f t d) { s with pc := upd s.pc f (.sleeping (t + d)), now := t }
  | sleepWake (s : State) (f : Fid) (t dl : Nat) (h : s.pc f = .sleeping dl) (hd : dl ≤ t) (ht : s.now ≤ t) :
      Step s (.sleepWake f t) { s with pc := upd s.pc f .idle, now := t }

inductive Reachable (inits : Var → Ptr) (n : Nat) : State → Prop where
  | init : Reachable inits n (init inits n)
  | step {s l s'} : Reachable inits n s → Step s l s' → Reachable inits n s'

def next (s : State) : Label → Option State
  | .joinStart f k => if s.pc f = .idle then some { s with pc := upd s.pc f (.joining k) } else none
  | .joinRet f k => if s.pc f = .joining k ∧ s.fin k = true then some { s with pc := upd s.pc f .idle } else none
  | .work f => if s.pc f = .idle then some s else none
  | .finish f => if s.pc f = .idle then some { s with pc := upd s.pc f .done, fin := upd s.fin f true } else none
  | .set f v x => if s.pc f = .idle then some (doSet s f v x) else none
  | .get f v r => if s.pc f = .idle ∧ r = read s v f then some s else none
  | .copy f dst src => if s.pc f = .idle then some (doSet s f dst (read s src f)) else none
  | .sleepStart f t d =>
      if s.pc f = .idle ∧ s.now ≤ t then some { s with pc := upd s.pc f (.sleeping (t + d)), now := t } else none
  | .sleepWake f t =>
      match s.pc f with
      | .sleeping dl => if dl ≤ t ∧ s.now ≤ t then some { s with pc := upd s.pc f .idle, now := t } else none
      | _ => none

theorem next_sound {s : State} {l : Label} {s' : State} (h : next s l = some s') : Step s l s' := by
  cases l <;> simp only [next] at h <;> (repeat' split at h) <;> cases h <;> (repeat cases ‹_ ∧ _›) <;>
    (try simp only [Bool.not_eq_true] at *) <;> subst_vars <;> constructor <;> first | assumption | simp_all

end Yaclib.FiberSync.Th
