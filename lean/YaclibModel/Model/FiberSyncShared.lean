/-
C18 — model `Sm` of `fiber::SharedMutex` / `fiber::SharedTimedMutex`.

Written from /repo: src/fault/fiber/shared_mutex.cpp, include/yaclib/fault/detail/fiber/shared_timed_mutex.hpp
(scheduler abstraction and conventions as in Model/FiberSync.lean).

History: until the fix commits 37d0a59 (SharedTimedMutex) and 5d29c51 (SharedMutex) the code had
  D5  `SharedTimedMutex::TimedWaitHelper(timeout, exclusive)` ended in `SharedLockHelper()` also for `exclusive == true`: an
      exclusive `try_lock_for` registered as a shared owner — scenario `sharedt f0=LS,US f1=F50,U f2=TS,US`, choices
      `k0/3 p0/2 p0/2 k0/3 p1/2 k0/2 p0/2 p0/2 k0/2` (writer + reader); sequential aftermath `sharedt f0=F50,U f1=LS,US f2=L,U`,
      choices `k0/3 p0/2 p0/2 k0/3 p0/2 p0/2 k0/2` (the lock stays `_occupied` with no holder);
  D6  `lock()`, `lock_shared()` and `TimedWaitHelper` took the lock after a wake-up without re-checking (single `if`) —
      scenario `shared f0=LS,US f1=L,U f2=LS,US`, choices `k0/3 p1/2 k0/2 k1/2 p0/2 k0/3 p1/2 k0/2 k0/2` (writer next to reader);
  D7  `lock_shared()` parked on `_exclusive_queue`; `unlock()` woke the whole `_shared_queue` or ONE fiber of
      `_exclusive_queue`, by `GetRandNumber(2)` when both were non-empty — scenario `shared f0=L,U f1=LS,J2,US f2=LS,US`,
      choices `k0/3 p1/2 k0/2 k0/2 k0/2 p0/2 k0/2 p0/2` (a reader parked while only a reader holds),
and this model contained them (see git history and notes/C18.md).  It now describes the repaired code: every wait sits in
a `while` that re-evaluates its condition (timed ones with the deadline computed once at the call), `lock_shared()` waits
on `_shared_queue`, `TimedWaitHelper` ends in `LockHelper()` for an exclusive request, and `unlock()` is
`_occupied = false; _shared_queue.NotifyAll(); _exclusive_queue.NotifyOne();` (no random draw any more).
-/
import YaclibModel.Model.FiberSync

namespace Yaclib.FiberSync.Sm
open Yaclib.FiberSync

inductive Pc where
  | idle | done
  | xParked                                  -- `lock()` on `_exclusive_queue`
  | sParked                                  -- `lock_shared()` on `_shared_queue`
  | txParked (req dl : Nat)                  -- `try_lock_for/until` on `_exclusive_queue`
  | tsParked (req dl : Nat)                  -- `try_lock_shared_for/until` on `_shared_queue`
  | xLocking | sLocking                      -- notified: evaluates the `while` condition again
  | txLocking (req : Nat) | tsLocking (req : Nat)
  | sleeping (dl : Nat)
  deriving DecidableEq, Repr

/-- about to re-evaluate the condition of an exclusive / shared request -/
def Pc.recheckX : Pc → Bool
  | .xLocking => true | .txLocking _ => true | _ => false
def Pc.recheckS : Pc → Bool
  | .sLocking => true | .tsLocking _ => true | _ => false

/-- the queues: writers on the exclusive one, readers on the shared one -/
def Pc.onE : Pc → Bool
  | .xParked => true | .txParked _ _ => true | _ => false
def Pc.onS : Pc → Bool
  | .sParked => true | .tsParked _ _ => true | _ => false

def wake : Pc → Pc
  | .xParked => .xLocking
  | .sParked => .sLocking
  | .txParked req _ => .txLocking req
  | .tsParked req _ => .tsLocking req
  | p => p

structure State where
  timed : Bool
  pc : Fid → Pc
  occ : Bool                   -- `_occupied`
  excl : Bool                  -- `_exclusive_mode`
  cnt : Nat                    -- `_shared_owners_count`
  sq : List Fid                -- `_shared_queue`
  eq : List Fid                -- `_exclusive_queue`
  now : Nat
  -- ghost
  xh : List Fid                -- fibers whose last exclusive acquisition succeeded and that have not called `unlock`
  sh : List Fid                -- same for shared / `unlock_shared`
  transit : List Fid           -- fibers made runnable by a NotifyOne on the exclusive queue that have not run yet

def init (timed : Bool) (n : Nat) : State :=
  { timed := timed, pc := fun g => if g < n then .idle else .done, occ := false, excl := false, cnt := 0,
    sq := [], eq := [], now := 0, xh := [], sh := [], transit := [] }

/-- `_occupied && _exclusive_mode`: what makes `lock_shared` / `try_lock_shared` wait or fail -/
def XHeld (s : State) : Prop := s.occ = true ∧ s.excl = true

instance (s : State) : Decidable (XHeld s) := by unfold XHeld; exact inferInstance

inductive Label where
  | xAcq (f : Fid)                                  -- `f E ret lock`
  | xPark (f : Fid)                                 -- `f M eq park 0` inside `lock`
  | tryX (f : Fid) (ok : Bool)                      -- `f E ret try_lock b`
  | unlock (f : Fid) (w : Option Fid)               -- `f M sq notify_all r`, `f M eq notify_one r idx`, `f E ret unlock`
  | sAcq (f : Fid)                                  -- `f E ret lock_shared`
  | sPark (f : Fid)                                 -- `f M sq park 0` inside `lock_shared`
  | tryS (f : Fid) (ok : Bool)                      -- `f E ret try_lock_shared b`
  | unlockS (f : Fid) (w : Option Fid)              -- `f E ret unlock_shared`
  | txAcq (f : Fid)                                 -- `f E ret try_lock_for 1`
  | txPark (f : Fid) (t d j : Nat)                  -- `f M eq park_timed 0 @t j=j`
  | txTimeout (f : Fid) (t : Nat)                   -- `f M eq wake 1 @t`
  | tsAcq (f : Fid)                                 -- `f E ret try_lock_shared_for 1`
  | tsPark (f : Fid) (t d j : Nat)                  -- `f M sq park_timed 0 @t j=j`
  | tsTimeout (f : Fid) (t : Nat)                   -- `f M sq wake 1 @t`
  | txRepark (f : Fid) (j : Nat) | tsRepark (f : Fid) (j : Nat)   -- `park_timed` again after a wake-up
  | sleepStart (f : Fid) (t d : Nat) | sleepWake (f : Fid) (t : Nat)
  | finish (f : Fid)
  deriving DecidableEq, Repr

/-- `LockHelper()`: `_occupied = true; _exclusive_mode = true` -/
def lockHelper (s : State) (f : Fid) : State :=
  { s with occ := true, excl := true, xh := s.xh ++ [f], pc := upd s.pc f .idle, transit := rm s.transit f }

/-- `SharedLockHelper()`: `_occupied = true; _exclusive_mode = false; _shared_owners_count++` by a shared request -/
def sharedHelper (s : State) (f : Fid) : State :=
  { s with occ := true, excl := false, cnt := s.cnt + 1, sh := s.sh ++ [f], pc := upd s.pc f .idle,
           transit := rm s.transit f }

def notifyE (s : State) : Option Fid → State
  | none => s
  | some g => { s with eq := rm s.eq g, pc := upd s.pc g (wake (s.pc g)), transit := s.transit ++ [g] }

/-- `if (b) _shared_queue.NotifyAll()` -/
def notifyAllS (b : Bool) (s : State) : State :=
  { s with sq := if b then [] else s.sq, pc := fun g => if b = true ∧ g ∈ s.sq then wake (s.pc g) else s.pc g }

/-- `unlock_shared()`: `_shared_owners_count--; if (_shared_owners_count == 0) { _occupied = false; _exclusive_queue.NotifyOne(); }`
    (`w = none` when the count stays positive, see `UnlockSPick`) -/
def doUnlockS (s : State) (f : Fid) (w : Option Fid) : State :=
  notifyE { s with cnt := s.cnt - 1, sh := s.sh.erase f, occ := if s.cnt - 1 = 0 then false else s.occ } w

def UnlockSPick (s : State) (w : Option Fid) : Prop :=
  if s.cnt - 1 = 0 then PickOk s.eq w else w = none

instance (s : State) (w : Option Fid) : Decidable (UnlockSPick s w) := by unfold UnlockSPick; exact inferInstance

def parkE (s : State) (f : Fid) (p : Pc) : State :=
  { s with eq := s.eq ++ [f], pc := upd s.pc f p, transit := rm s.transit f }
def parkS (s : State) (f : Fid) (p : Pc) : State :=
  { s with sq := s.sq ++ [f], pc := upd s.pc f p, transit := rm s.transit f }

/-- `unlock()`: `_occupied = false; _shared_queue.NotifyAll(); _exclusive_queue.NotifyOne();` -/
def doUnlock (s : State) (f : Fid) (w : Option Fid) : State :=
  notifyE (notifyAllS true { s with occ := false, xh := s.xh.erase f }) w

inductive Step : State → Label → State → Prop where
  -- lock(): `if (_occupied) { _exclusive_queue.Wait(); } LockHelper();`
  | xFast (s : State) (f : Fid) (h : s.pc f = .idle) (ho : s.occ = false) : Step s (.xAcq f) (lockHelper s f)
  | xPark (s : State) (f : Fid) (h : s.pc f = .idle) (ho : s.occ = true) : Step s (.xPark f) (parkE s f .xParked)
  | tryXOk (s : State) (f : Fid) (h : s.pc f = .idle) (ho : s.occ = false) : Step s (.tryX f true) (lockHelper s f)
  | tryXFail (s : State) (f : Fid) (h : s.pc f = .idle) (ho : s.occ = true) : Step s (.tryX f false) s
  | unlock (s : State) (f : Fid) (w : Option Fid) (h : s.pc f = .idle) (hh : f ∈ s.xh) (hw : PickOk s.eq w) :
      Step s (.unlock f w) (doUnlock s f w)
  | xRecheckAcq (s : State) (f : Fid) (h : s.pc f = .xLocking) (ho : s.occ = false) : Step s (.xAcq f) (lockHelper s f)
  | xRepark (s : State) (f : Fid) (h : s.pc f = .xLocking) (ho : s.occ = true) : Step s (.xPark f) (parkE s f .xParked)
  -- lock_shared(): `if (_occupied && _exclusive_mode) { _exclusive_queue.Wait(); } SharedLockHelper();`
  | sFast (s : State) (f : Fid) (h : s.pc f = .idle) (hx : ¬ XHeld s) : Step s (.sAcq f) (sharedHelper s f)
  | sPark (s : State) (f : Fid) (h : s.pc f = .idle) (hx : XHeld s) : Step s (.sPark f) (parkS s f .sParked)
  | sRecheckAcq (s : State) (f : Fid) (h : s.pc f = .sLocking) (hx : ¬ XHeld s) : Step s (.sAcq f) (sharedHelper s f)
  | sRepark (s : State) (f : Fid) (h : s.pc f = .sLocking) (hx : XHeld s) : Step s (.sPark f) (parkS s f .sParked)
  | trySOk (s : State) (f : Fid) (h : s.pc f = .idle) (hx : ¬ XHeld s) : Step s (.tryS f true) (sharedHelper s f)
  | trySFail (s : State) (f : Fid) (h : s.pc f = .idle) (hx : XHeld s) : Step s (.tryS f false) s
  | unlockS (s : State) (f : Fid) (w : Option Fid) (h : s.pc f = .idle) (hh : f ∈ s.sh) (hw : UnlockSPick s w) :
      Step s (.unlockS f w) (doUnlockS s f w)
  -- TimedWaitHelper(timeout, exclusive = true)
  | txFast (s : State) (f : Fid) (hk : s.timed = true) (h : s.pc f = .idle) (ho : s.occ = false) :
      Step s (.txAcq f) (lockHelper s f)
  | txRecheckAcq (s : State) (f : Fid) (req : Nat) (hk : s.timed = true) (h : s.pc f = .txLocking req) (ho : s.occ = false) :
      Step s (.txAcq f) (lockHelper s f)
  | txRepark (s : State) (f : Fid) (req j : Nat) (hk : s.timed = true) (h : s.pc f = .txLocking req) (ho : s.occ = true) :
      Step s (.txRepark f j) (parkE s f (.txParked req (req + j)))
  | tsRecheckAcq (s : State) (f : Fid) (req : Nat) (hk : s.timed = true) (h : s.pc f = .tsLocking req) (hx : ¬ XHeld s) :
      Step s (.tsAcq f) (sharedHelper s f)
  | tsRepark (s : State) (f : Fid) (req j : Nat) (hk : s.timed = true) (h : s.pc f = .tsLocking req) (hx : XHeld s) :
      Step s (.tsRepark f j) (parkS s f (.tsParked req (req + j)))
  | txPark (s : State) (f : Fid) (t d j : Nat) (hk : s.timed = true) (h : s.pc f = .idle) (ho : s.occ = true)
      (ht : s.now ≤ t) : Step s (.txPark f t d j) { parkE s f (.txParked (t + d) (t + d + j)) with now := t }
  | txTimeout (s : State) (f : Fid) (t req dl : Nat) (hk : s.timed = true) (h : s.pc f = .txParked req dl)
      (hd : dl ≤ t) (ht : s.now ≤ t) :
      Step s (.txTimeout f t) { s with eq := rm s.eq f, pc := upd s.pc f .idle, now := t }
  -- TimedWaitHelper(timeout, exclusive = false)
  | tsFast (s : State) (f : Fid) (hk : s.timed = true) (h : s.pc f = .idle) (hx : ¬ XHeld s) :
      Step s (.tsAcq f) (sharedHelper s f)
  | tsPark (s : State) (f : Fid) (t d j : Nat) (hk : s.timed = true) (h : s.pc f = .idle) (hx : XHeld s)
      (ht : s.now ≤ t) : Step s (.tsPark f t d j) { parkS s f (.tsParked (t + d) (t + d + j)) with now := t }
  | tsTimeout (s : State) (f : Fid) (t req dl : Nat) (hk : s.timed = true) (h : s.pc f = .tsParked req dl)
      (hd : dl ≤ t) (ht : s.now ≤ t) :
      Step s (.tsTimeout f t) { s with sq := rm s.sq f, pc := upd s.pc f .idle, now := t }
  | sleepStart (s : State) (f : Fid) (t d : Nat) (h : s.pc f = .idle) (ht : s.now ≤ t) :
      Step s (.sleepStart f t d) { s with pc := upd s.pc f (.sleeping (t + d)), now := t }
  | sleepWake (s : State) (f : Fid) (t dl : Nat) (h : s.pc f = .sleeping dl) (hd : dl ≤ t) (ht : s.now ≤ t) :
      Step s (.sleepWake f t) { s with pc := upd s.pc f .idle, now := t }
  | finish (s : State) (f : Fid) (h : s.pc f = .idle) : Step s (.finish f) { s with pc := upd s.pc f .done }

inductive Reachable (timed : Bool) (n : Nat) : State → Prop where
  | init : Reachable timed n (init timed n)
  | step {s l s'} : Reachable timed n s → Step s l s' → Reachable timed n s'

def Quiescent (s : State) : Prop := ∀ l s', ¬ Step s l s'

def next (s : State) : Label → Option State
  | .xAcq f =>
      match s.pc f with
      | .idle => if s.occ = false then some (lockHelper s f) else none
      | .xLocking => if s.occ = false then some (lockHelper s f) else none
      | _ => none
  | .xPark f =>
      match s.pc f with
      | .idle => if s.occ = true then some (parkE s f .xParked) else none
      | .xLocking => if s.occ = true then some (parkE s f .xParked) else none
      | _ => none
  | .tryX f ok =>
      if s.pc f = .idle then
        if ok then (if s.occ = false then some (lockHelper s f) else none)
        else (if s.occ = true then some s else none)
      else none
  | .unlock f w => if s.pc f = .idle ∧ f ∈ s.xh ∧ PickOk s.eq w then some (doUnlock s f w) else none
  | .sAcq f =>
      match s.pc f with
      | .idle => if ¬ XHeld s then some (sharedHelper s f) else none
      | .sLocking => if ¬ XHeld s then some (sharedHelper s f) else none
      | _ => none
  | .sPark f =>
      match s.pc f with
      | .idle => if XHeld s then some (parkS s f .sParked) else none
      | .sLocking => if XHeld s then some (parkS s f .sParked) else none
      | _ => none
  | .tryS f ok =>
      if s.pc f = .idle then
        if ok then (if ¬ XHeld s then some (sharedHelper s f) else none)
        else (if XHeld s then some s else none)
      else none
  | .unlockS f w => if s.pc f = .idle ∧ f ∈ s.sh ∧ UnlockSPick s w then some (doUnlockS s f w) else none
  | .txAcq f =>
      if s.timed = true then
        match s.pc f with
        | .idle => if s.occ = false then some (lockHelper s f) else none
        | .txLocking _ => if s.occ = false then some (lockHelper s f) else none
        | _ => none
      else none
  | .txRepark f j =>
      if s.timed = true then
        match s.pc f with
        | .txLocking req => if s.occ = true then some (parkE s f (.txParked req (req + j))) else none
        | _ => none
      else none
  | .tsRepark f j =>
      if s.timed = true then
        match s.pc f with
        | .tsLocking req => if XHeld s then some (parkS s f (.tsParked req (req + j))) else none
        | _ => none
      else none
  | .txPark f t d j =>
      if s.timed = true ∧ s.pc f = .idle ∧ s.occ = true ∧ s.now ≤ t
      then some { parkE s f (.txParked (t + d) (t + d + j)) with now := t } else none
  | .txTimeout f t =>
      if s.timed = true then
        match s.pc f with
        | .txParked _ dl =>
            if dl ≤ t ∧ s.now ≤ t then some { s with eq := rm s.eq f, pc := upd s.pc f .idle, now := t } else none
        | _ => none
      else none
  | .tsAcq f =>
      if s.timed = true then
        match s.pc f with
        | .idle => if ¬ XHeld s then some (sharedHelper s f) else none
        | .tsLocking _ => if ¬ XHeld s then some (sharedHelper s f) else none
        | _ => none
      else none
  | .tsPark f t d j =>
      if s.timed = true ∧ s.pc f = .idle ∧ XHeld s ∧ s.now ≤ t
      then some { parkS s f (.tsParked (t + d) (t + d + j)) with now := t } else none
  | .tsTimeout f t =>
      if s.timed = true then
        match s.pc f with
        | .tsParked _ dl =>
            if dl ≤ t ∧ s.now ≤ t then some { s with sq := rm s.sq f, pc := upd s.pc f .idle, now := t } else none
        | _ => none
      else none
  | .sleepStart f t d =>
      if s.pc f = .idle ∧ s.now ≤ t then some { s with pc := upd s.pc f (.sleeping (t + d)), now := t } else none
  | .sleepWake f t =>
      match s.pc f with
      | .sleeping dl => if dl ≤ t ∧ s.now ≤ t then some { s with pc := upd s.pc f .idle, now := t } else none
      | _ => none
  | .finish f => if s.pc f = .idle then some { s with pc := upd s.pc f .done } else none

theorem next_sound {s : State} {l : Label} {s' : State} (h : next s l = some s') : Step s l s' := by
  cases l with
  | xAcq f =>
      simp only [next] at h; (repeat' split at h) <;> cases h
      · exact .xFast s f ‹_› ‹_›
      · exact .xRecheckAcq s f ‹_› ‹_›
  | xPark f =>
      simp only [next] at h; (repeat' split at h) <;> cases h
      · exact .xPark s f ‹_› ‹_›
      · exact .xRepark s f ‹_› ‹_›
  | sAcq f =>
      simp only [next] at h; (repeat' split at h) <;> cases h
      · exact .sFast s f ‹_› ‹_›
      · exact .sRecheckAcq s f ‹_› ‹_›
  | sPark f =>
      simp only [next] at h; (repeat' split at h) <;> cases h
      · exact .sPark s f ‹_› ‹_›
      · exact .sRepark s f ‹_› ‹_›
  | txAcq f =>
      simp only [next] at h; (repeat' split at h) <;> cases h
      · exact .txFast s f ‹_› ‹_› ‹_›
      · exact .txRecheckAcq s f _ ‹_› ‹_› ‹_›
  | tsAcq f =>
      simp only [next] at h; (repeat' split at h) <;> cases h
      · exact .tsFast s f ‹_› ‹_› ‹_›
      · exact .tsRecheckAcq s f _ ‹_› ‹_› ‹_›
  | _ =>
      simp only [next] at h; (repeat' split at h) <;> cases h <;> (repeat cases ‹_ ∧ _›) <;>
        (try simp only [Bool.not_eq_true] at *) <;> subst_vars <;> constructor <;> first | assumption | simp_all [XHeld]

end Yaclib.FiberSync.Sm
