/-
C16 — WaitGroup / OneShotEvent.

Written from /repo: `WaitGroup::{Add, Done, InsertRange<NeedMove, NeedAdd = true>, Wait, WaitFor/WaitUntil, Await*}`
(include/yaclib/algo/wait_group.hpp), `OneShotEvent::{TryAdd, Ready, Wait, TimedWait, Set}` + `SetImpl`
(algo/one_shot_event.hpp, src/algo/one_shot_event.cpp), `Waiter::Call`, `TimedWaiter::Call`, the awaiters,
`AtomicCounter::{Add, Sub, SubEqual}` + `SetDeleter`, `CallCallback::Impl`, `DropCallback::Impl`
(algo/detail/wait_event.hpp), `BaseCore::{SetCallbackImpl<false>, SetResultImpl<·,false>, Ready}`, `FutureBase::Ready`,
`MutexEvent`.  (`Ready()` is `word == kResult` since the fix of defect D3, /repo commit c9c07bc; before it was
`word != kEmpty`, which is true as soon as `Attach` has registered its callback.)

State: the counter, the event's list head (`some l` = registered waiter jobs, newest first; `none` = all-done sentinel),
any number of threads each running a program of operations, futures (one hand-off word each), waiter jobs (allocated
when a wait operation starts; a blocking waiter is a stack object, a timed waiter a heap object with two owners).

Granularity: one step per atomic operation (`fetch_add`, `fetch_sub`, `load`, each CAS attempt, `exchange`), per lock /
unlock of a waiter's mutex, plus the observable events (a wait returned, a coroutine was resumed, `Ready()` reported).
Thread-local code between two such operations is folded into the following step.

The documented rule "Add is only called while the count is non-zero" is expressed by a token discipline on the
workload (`Workload.ok`, decidable): every thread starts with some of the initial count's units; it may `Add` only
while it holds a unit, `Done(k)` only units it holds (k ≥ 1), and `Attach`/`Consume` hand one unit per registered
future to that future's callback.  `held` / `toks` are ghost fields.
-/
namespace Yaclib.Event

inductive FWord where
  | empty | call | drop | result
  deriving DecidableEq, Repr

structure Fut where
  word : FWord := .empty
  completed : Bool := false    -- ghost: the producer has exchanged
  nfree : Nat := 0             -- ghost: how often the WaitGroup machinery released the (consumed) core
  ncon : Nat := 0              -- ghost: how often a `Consume` of this future was decided (registered or found ready)
  deriving DecidableEq, Repr

inductive WKind where
  | blocking | timed | coro
  deriving DecidableEq, Repr

/-- ghost life cycle of a waiter job -/
inductive JSt where
  | fresh      -- allocated, `TryAdd` not decided yet
  | listed     -- pushed, in the event's list
  | running    -- taken out by `SetImpl`, its `Call` not finished yet
  | called     -- `Call` finished
  | failed     -- `TryAdd` returned false (or `Ready()` was true): never in the list
  deriving DecidableEq, Repr

structure Job where
  kind : WKind := .coro
  owner : Nat := 0
  slot : Nat := 0              -- which wait operation of the owner (length of its remaining program)
  st : JSt := .fresh
  ready : Bool := false        -- MutexEvent::_is_ready
  holder : Option Nat := none  -- thread holding MutexEvent::_m
  refs : Int := 0              -- TimedWaiter reference count
  oref : Bool := false         -- ghost: the owner (the thread inside WaitFor) still holds its reference
  odone : Bool := false        -- ghost: the owner's wait operation is over (returned / resumed / suspended)
  freed : Bool := false        -- the object is gone (stack waiter left scope / heap waiter deleted)
  nrel : Nat := 0              -- ghost: releases (Wait returned / WaitFor returned true / coroutine resumed)
  nfree : Nat := 0             -- ghost: deletes of the heap waiter
  deriving DecidableEq, Repr

inductive AKind where
  | inline | sticky | on | raw    -- co_await AwaitInline / AwaitSticky / AwaitOn(e), plain TryAdd(job)
  deriving DecidableEq, Repr

def AKind.checks : AKind → Bool
  | .inline => true | .sticky => true | _ => false

inductive Op where
  | add (k : Nat)                              -- WaitGroup::Add(k)
  | done (k : Nat)                             -- WaitGroup::Done(k)
  | insert (consume : Bool) (fs : List Nat)    -- Attach(fs…) / Consume(fs…)
  | fulfil (f : Nat)                           -- Promise::Set on future f
  | ready (f : Nat)                            -- the owner of (attached) future f asks Ready()
  | wait                                       -- Wait()
  | waitFor                                    -- WaitFor / WaitUntil
  | await (k : AKind)
  deriving DecidableEq, Repr

/-- what a load of the head (or the value left in `expected` by a failed CAS) can be -/
inductive Exp where
  | done                    -- the all-done sentinel
  | cur (l : List Nat)      -- a list
  | stale                   -- an older list value (only from a non-RMW load)
  deriving DecidableEq, Repr

inductive Pc where
  | idle
  | xchgHead                                    -- SetImpl: exchange next
  | run (js : List Nat) (locked : Bool)         -- SetImpl loop at js.head; locked = inside its MutexEvent::Set
  | runDec (j : Nat) (rest : List Nat)          -- TimedWaiter::Call: DecRef next
  | insReg (rest : List Nat) (c wc : Nat) (consume : Bool)            -- SetCallback on rest.head: load next
  | insCas (f : Nat) (rest : List Nat) (c wc : Nat) (consume : Bool)  -- … CAS next
  | insSub (k : Nat)                            -- Done(count - wait_count) next
  | cbSub                                       -- Call/DropCallback::Impl: Sub(1) next
  | rdy (f : Nat) (b c : Bool)                  -- Ready() loaded b (future completed: c), report next
  | tryL (j : Nat)                              -- TryAdd: load next
  | tryC (j : Nat) (x : Exp)                    -- TryAdd: CAS with expected x next
  | resume (j : Nat)                            -- not suspended (Ready / TryAdd failed): continue the coroutine
  | bLock (j : Nat) | bHeld (j : Nat) | bAsleep (j : Nat) | bTimedOut (j : Nat)
  | bUnlockRet (j : Nat) (b : Bool)
  | bDec (j : Nat) (b : Bool)                   -- IntrusivePtr<TimedWaiter> destructor: DecRef next
  | rep (j : Nat) (b : Bool)                    -- Wait / WaitFor returned b, the client observes it next
  deriving DecidableEq, Repr

structure Thr where
  prog : List Op := []
  pc : Pc := .idle
  held : Nat := 0               -- ghost: units of the count this thread is responsible for
  deriving DecidableEq, Repr

structure Workload where
  nthr : Nat
  prog : Nat → List Op
  held0 : Nat → Nat
  nfut : Nat

def sumTo (f : Nat → Nat) : Nat → Nat
  | 0 => 0
  | n + 1 => sumTo f n + f n

structure State where
  w : Workload
  count : Int
  head : Option (List Nat)
  thr : Nat → Thr
  fut : Nat → Fut
  job : Nat → Job
  njobs : Nat
  -- ghost
  toks : List Nat               -- futures whose callback carries a unit of the count (registered, not yet decremented)
  zeroed : Bool                 -- some decrement has reached zero
  nzero : Nat                   -- how many did
  zeroer : Option Nat           -- the thread whose decrement reached zero
  crash : Bool                  -- SetImpl found the sentinel already in the head (it would dereference it)
  dfulfil : Bool                -- a promise was fulfilled twice (outside every contract)
  bad : Bool                    -- a waiter object was accessed after it was freed / left scope
  readyObs : List (Nat × Bool × Bool)   -- Ready() reports: (future, reported, completed at the load)

def updT (f : Nat → Thr) (i : Nat) (x : Thr) : Nat → Thr := fun j => if j = i then x else f j
def updF (f : Nat → Fut) (i : Nat) (x : Fut) : Nat → Fut := fun j => if j = i then x else f j
def updJ (f : Nat → Job) (i : Nat) (x : Job) : Nat → Job := fun j => if j = i then x else f j

def init (w : Workload) : State :=
  { w := w, count := (sumTo w.held0 w.nthr : Nat), head := some [],
    thr := fun t => if t < w.nthr then { prog := w.prog t, pc := .idle, held := w.held0 t } else {},
    fut := fun _ => {}, job := fun _ => {}, njobs := 0,
    toks := [], zeroed := false, nzero := 0, zeroer := none, crash := false, dfulfil := false, bad := false, readyObs := [] }

inductive Label where
  | fadd (t k : Nat) (old : Int)            -- count.fetch_add(k, relaxed) → old
  | fsub (t k : Nat) (old : Int)            -- count.fetch_sub(k, release) → old
  | fLoad (t f : Nat) (x : FWord)           -- load(acquire) of future f's word
  | fCas (t f : Nat) (ok : Bool)            -- compare_exchange_strong(empty → callback)
  | pXchg (t f : Nat) (old : FWord)         -- exchange(result, acq_rel) → old
  | rdy (t f : Nat) (b : Bool)              -- Ready() returned b
  | hLoad (t : Nat) (x : Exp)               -- head.load(acquire)
  | hCas (t : Nat) (ok : Bool)              -- head.compare_exchange_weak(expected, node)
  | hSpur (t : Nat) (x : Exp)               -- … failed spuriously, re-read x
  | hXchg (t : Nat) (old : Option (List Nat))   -- head.exchange(allDone, acq_rel) → old
  | lock (t j : Nat) | unlock (t j : Nat)   -- waiter j's mutex
  | timeout (t j : Nat)
  | jDec (t j : Nat) (old : Int)            -- TimedWaiter refcount fetch_sub(1) → old
  | ret (t j : Nat) (b : Bool)              -- Wait() returned (b = true) / WaitFor returned b
  | rel (t j : Nat)                         -- coroutine / raw job j resumed (called) by thread t
  deriving DecidableEq, Repr

/-- a non-RMW load of the head: the current value, or an older list -/
def headObs (h : Option (List Nat)) (x : Exp) : Prop :=
  match x with
  | .done => h = none
  | .cur l => h = some l
  | .stale => True

instance (h : Option (List Nat)) (x : Exp) : Decidable (headObs h x) := by
  unfold headObs; cases x <;> exact inferInstance

/-- the value a failed CAS leaves in `expected` -/
def expOf (h : Option (List Nat)) : Exp :=
  match h with
  | none => .done
  | some l => .cur l

/-- pre-check load of a future's word by a thread that never wrote it: the current value or still the initial one -/
def fLoadOk (f : Fut) (x : FWord) : Prop := x = f.word ∨ (f.word = .result ∧ x = .empty)

instance (f : Fut) (x : FWord) : Decidable (fLoadOk f x) := by unfold fLoadOk; exact inferInstance

/-! ### effects -/

def setT (s : State) (t : Nat) (x : Thr) : State := { s with thr := updT s.thr t x }

/-- the running operation of thread t is complete -/
def finish (s : State) (t : Nat) : State :=
  setT s t { s.thr t with prog := (s.thr t).prog.tail, pc := .idle }

def goto (s : State) (t : Nat) (pc : Pc) : State := setT s t { s.thr t with pc := pc }

/-- `AtomicCounter::Sub(k)`: `fetch_sub(k) == k` → `SetDeleter` → `OneShotEvent::Set` -/
def doSub (s : State) (t k : Nat) (heldDelta : Nat) : State :=
  let s1 := { s with count := s.count - (k : Int) }
  let th := { s.thr t with held := (s.thr t).held - heldDelta }
  if s.count = (k : Int) then
    { s1 with thr := updT s.thr t { th with pc := .xchgHead }, zeroed := true, nzero := s.nzero + 1, zeroer := some t }
  else { s1 with thr := updT s.thr t { th with prog := th.prog.tail, pc := .idle } }

def doAdd (s : State) (t k : Nat) : State :=
  finish { s with count := s.count + (k : Int), thr := updT s.thr t { s.thr t with held := (s.thr t).held + k } } t

/-- InsertRange: `Add(count)`, then the registration loop -/
def doInsAdd (s : State) (t : Nat) (consume : Bool) (fs : List Nat) : State :=
  { s with count := s.count + (fs.length : Int),
           thr := updT s.thr t { s.thr t with held := (s.thr t).held + fs.length, pc := .insReg fs fs.length 0 consume } }

/-- after the registration loop: `if (count != wait_count) Done(count - wait_count)` -/
def insNext (s : State) (t : Nat) (rest : List Nat) (c wc : Nat) (consume : Bool) : State :=
  match rest with
  | _ :: _ => goto s t (.insReg rest c wc consume)
  | [] => if c ≠ wc then goto s t (.insSub (c - wc)) else finish s t

/-- registration failed (the result is there): a consumed core is released right away -/
def insFail (s : State) (t f : Nat) (rest : List Nat) (c wc : Nat) (consume : Bool) : State :=
  let s1 := if consume then
      { s with fut := updF s.fut f { s.fut f with nfree := (s.fut f).nfree + 1, ncon := (s.fut f).ncon + 1 } } else s
  insNext s1 t rest c wc consume

def doInsLoad (s : State) (t f : Nat) (rest : List Nat) (c wc : Nat) (consume : Bool) (x : FWord) : State :=
  if x = .empty then goto s t (.insCas f rest c wc consume) else insFail s t f rest c wc consume

def doInsCasOk (s : State) (t f : Nat) (rest : List Nat) (c wc : Nat) (consume : Bool) : State :=
  insNext { s with fut := updF s.fut f { s.fut f with word := if consume then .drop else .call,
                                                        ncon := if consume then (s.fut f).ncon + 1 else (s.fut f).ncon },
                   toks := f :: s.toks,
                   thr := updT s.thr t { s.thr t with held := (s.thr t).held - 1 } } t rest c (wc + 1) consume

/-- `SetResultImpl<·,false>`: a callback that was there is run by the producer: `CallCallback::Impl` = `Sub(1)`,
    `DropCallback::Impl` = `caller.DecRef()` (releases the consumed core) then `Sub(1)` -/
def doFulfil (s : State) (t f : Nat) : State :=
  let fu := s.fut f
  match fu.word with
  | .call => goto { s with fut := updF s.fut f { fu with word := .result, completed := true } } t .cbSub
  | .drop => goto { s with fut := updF s.fut f { fu with word := .result, completed := true, nfree := fu.nfree + 1 } } t .cbSub
  | .empty => finish { s with fut := updF s.fut f { fu with word := .result, completed := true } } t
  | .result => finish { s with dfulfil := true } t    -- a second Set on the same promise: outside every contract

def doCbSub (s : State) (t f : Nat) : State :=
  doSub { s with toks := s.toks.erase f } t 1 0

/-- SetImpl: `exchange(allDone)`, then call every job of the list that was there -/
def runNext (s : State) (t : Nat) (rest : List Nat) : State :=
  match rest with
  | [] => finish s t
  | _ :: _ => goto s t (.run rest false)

def markRunning (job : Nat → Job) (l : List Nat) : Nat → Job :=
  fun j => if j ∈ l then { job j with st := .running } else job j

def doXchgHead (s : State) (t : Nat) : State :=
  match s.head with
  | none => finish { s with crash := true } t
  | some l => runNext { s with head := none, job := markRunning s.job l } t l

def touch (s : State) (j : Nat) : Bool := s.bad || (s.job j).freed

def doRunLock (s : State) (t j : Nat) (rest : List Nat) : State :=
  goto { s with job := updJ s.job j { s.job j with holder := some t, ready := true }, bad := touch s j } t (.run (j :: rest) true)

def doRunUnlock (s : State) (t j : Nat) (rest : List Nat) : State :=
  let s1 := { s with bad := touch s j }
  match (s.job j).kind with
  | .timed => goto { s1 with job := updJ s.job j { s.job j with holder := none } } t (.runDec j rest)
  | _ => runNext { s1 with job := updJ s.job j { s.job j with holder := none, st := .called } } t rest

/-- `DecRef` on the heap waiter: `fetch_sub(1) == 1` → delete -/
def decJob (jb : Job) : Job :=
  if jb.refs = 1 then { jb with refs := jb.refs - 1, freed := true, nfree := jb.nfree + 1 } else { jb with refs := jb.refs - 1 }

def doRunDec (s : State) (t j : Nat) (rest : List Nat) : State :=
  runNext { s with job := updJ s.job j { decJob (s.job j) with st := .called }, bad := touch s j } t rest

def doRunRel (s : State) (t j : Nat) (rest : List Nat) : State :=
  runNext { s with job := updJ s.job j { s.job j with st := .called, nrel := (s.job j).nrel + 1 }, bad := touch s j } t rest

def opKind : Op → Option WKind
  | .wait => some .blocking
  | .waitFor => some .timed
  | .await _ => some .coro
  | _ => none

/-- inline / sticky awaiters ask `Ready()` before `TryAdd` -/
def opChecks : Op → Bool
  | .await a => a.checks
  | _ => false

/-- a wait operation starts: its waiter object comes into being -/
def newJob (s : State) (t : Nat) (k : WKind) : Job :=
  { kind := k, owner := t, slot := (s.thr t).prog.length, st := .fresh, refs := if k = .timed then 2 else 0,
    oref := decide (k = .timed) }

/-- `TryAdd` returned false / `Ready()` was true -/
def notAdded (s : State) (t j : Nat) : State :=
  let jb := s.job j
  match jb.kind with
  | .blocking => goto { s with job := updJ s.job j { jb with st := .failed, freed := true } } t (.rep j true)
  | .timed =>
      goto { s with job := updJ s.job j { jb with st := .failed, freed := true, oref := false, nfree := jb.nfree + 1 } } t (.rep j true)
  | .coro => goto { s with job := updJ s.job j { jb with st := .failed } } t (.resume j)

/-- the TryAdd loop with `expected = x` -/
def tryWith (s : State) (t j : Nat) (x : Exp) : State :=
  if x = .done then notAdded s t j else goto s t (.tryC j x)

def doStartLoad (s : State) (t : Nat) (k : WKind) (chk : Bool) (x : Exp) : State :=
  let j := s.njobs
  let s1 := { s with job := updJ s.job j (newJob s t k), njobs := s.njobs + 1 }
  if chk then (if x = .done then notAdded s1 t j else goto s1 t (.tryL j)) else tryWith s1 t j x

def doPushed (s : State) (t j : Nat) (l : List Nat) : State :=
  let s1 := { s with head := some (j :: l), job := updJ s.job j { s.job j with st := .listed } }
  match (s.job j).kind with
  | .coro =>                       -- suspended: control returns to the coroutine's caller
      finish { s1 with job := updJ s1.job j { s1.job j with odone := true } } t
  | _ => goto s1 t (.bLock j)

def doBLock (s : State) (t j : Nat) (timedOut : Bool) : State :=
  let jb := s.job j
  let s1 := { s with job := updJ s.job j { jb with holder := some t }, bad := touch s j }
  if jb.ready then goto s1 t (.bUnlockRet j true)
  else if timedOut then goto s1 t (.bUnlockRet j false)
  else goto s1 t (.bHeld j)

def doBSleep (s : State) (t j : Nat) : State :=
  goto { s with job := updJ s.job j { s.job j with holder := none }, bad := touch s j } t (.bAsleep j)

def doBUnlockRet (s : State) (t j : Nat) (b : Bool) : State :=
  let jb := s.job j
  let s1 := { s with bad := touch s j }
  match jb.kind with
  | .timed => goto { s1 with job := updJ s.job j { jb with holder := none } } t (.bDec j b)
  | _ => goto { s1 with job := updJ s.job j { jb with holder := none, freed := true } } t (.rep j b)

def doBDec (s : State) (t j : Nat) (b : Bool) : State :=
  goto { s with job := updJ s.job j { decJob (s.job j) with oref := false }, bad := touch s j } t (.rep j b)

def doRep (s : State) (t j : Nat) (b : Bool) : State :=
  finish { s with job := updJ s.job j { s.job j with odone := true, nrel := if b then (s.job j).nrel + 1 else (s.job j).nrel } } t

def doResume (s : State) (t j : Nat) : State :=
  finish { s with job := updJ s.job j { s.job j with odone := true, nrel := (s.job j).nrel + 1 } } t

inductive Step : State → Label → State → Prop where
  | tAdd (s : State) (t k : Nat) (rest : List Op) (h : (s.thr t).pc = .idle) (hp : (s.thr t).prog = .add k :: rest) :
      Step s (.fadd t k s.count) (doAdd s t k)
  | tDone (s : State) (t k : Nat) (rest : List Op) (h : (s.thr t).pc = .idle) (hp : (s.thr t).prog = .done k :: rest) :
      Step s (.fsub t k s.count) (doSub s t k k)
  | tInsAdd (s : State) (t : Nat) (consume : Bool) (fs : List Nat) (rest : List Op) (h : (s.thr t).pc = .idle)
      (hp : (s.thr t).prog = .insert consume fs :: rest) (hne : fs ≠ []) :
      Step s (.fadd t fs.length s.count) (doInsAdd s t consume fs)
  | tInsLoad (s : State) (t f : Nat) (rest : List Nat) (c wc : Nat) (consume : Bool) (x : FWord)
      (h : (s.thr t).pc = .insReg (f :: rest) c wc consume) (hx : fLoadOk (s.fut f) x) :
      Step s (.fLoad t f x) (doInsLoad s t f rest c wc consume x)
  | tInsCasOk (s : State) (t f : Nat) (rest : List Nat) (c wc : Nat) (consume : Bool)
      (h : (s.thr t).pc = .insCas f rest c wc consume) (hw : (s.fut f).word = .empty) :
      Step s (.fCas t f true) (doInsCasOk s t f rest c wc consume)
  | tInsCasFail (s : State) (t f : Nat) (rest : List Nat) (c wc : Nat) (consume : Bool)
      (h : (s.thr t).pc = .insCas f rest c wc consume) (hw : (s.fut f).word ≠ .empty) :
      Step s (.fCas t f false) (insFail s t f rest c wc consume)
  | tInsSub (s : State) (t k : Nat) (h : (s.thr t).pc = .insSub k) : Step s (.fsub t k s.count) (doSub s t k k)
  | tFulfil (s : State) (t f : Nat) (rest : List Op) (h : (s.thr t).pc = .idle) (hp : (s.thr t).prog = .fulfil f :: rest) :
      Step s (.pXchg t f (s.fut f).word) (doFulfil s t f)
  | tCbSub (s : State) (t f : Nat) (rest : List Op) (h : (s.thr t).pc = .cbSub) (hp : (s.thr t).prog = .fulfil f :: rest) :
      Step s (.fsub t 1 s.count) (doCbSub s t f)
  | tReadyLoad (s : State) (t f : Nat) (rest : List Op) (h : (s.thr t).pc = .idle) (hp : (s.thr t).prog = .ready f :: rest) :
      Step s (.fLoad t f (s.fut f).word) (goto s t (.rdy f (decide ((s.fut f).word = .result)) (s.fut f).completed))
  | tReady (s : State) (t f : Nat) (b c : Bool) (h : (s.thr t).pc = .rdy f b c) :
      Step s (.rdy t f b) (finish { s with readyObs := s.readyObs ++ [(f, b, c)] } t)
  /-- SetImpl -/
  | tXchgHead (s : State) (t : Nat) (h : (s.thr t).pc = .xchgHead) : Step s (.hXchg t s.head) (doXchgHead s t)
  | tRunLock (s : State) (t j : Nat) (rest : List Nat) (h : (s.thr t).pc = .run (j :: rest) false)
      (hk : (s.job j).kind ≠ .coro) (hm : (s.job j).holder = none) : Step s (.lock t j) (doRunLock s t j rest)
  | tRunUnlock (s : State) (t j : Nat) (rest : List Nat) (h : (s.thr t).pc = .run (j :: rest) true) :
      Step s (.unlock t j) (doRunUnlock s t j rest)
  | tRunDec (s : State) (t j : Nat) (rest : List Nat) (h : (s.thr t).pc = .runDec j rest) :
      Step s (.jDec t j (s.job j).refs) (doRunDec s t j rest)
  | tRunRel (s : State) (t j : Nat) (rest : List Nat) (h : (s.thr t).pc = .run (j :: rest) false)
      (hk : (s.job j).kind = .coro) : Step s (.rel t j) (doRunRel s t j rest)
  /-- a wait operation starts: `Ready()` (inline / sticky awaiters) or the load of `TryAdd` -/
  | tStart (s : State) (t : Nat) (op : Op) (rest : List Op) (k : WKind) (x : Exp) (h : (s.thr t).pc = .idle)
      (hp : (s.thr t).prog = op :: rest) (hk : opKind op = some k) (hx : headObs s.head x) :
      Step s (.hLoad t x) (doStartLoad s t k (opChecks op) x)
  | tTryLoad (s : State) (t j : Nat) (x : Exp) (h : (s.thr t).pc = .tryL j) (hx : headObs s.head x) :
      Step s (.hLoad t x) (tryWith s t j x)
  | tCasOk (s : State) (t j : Nat) (l : List Nat) (h : (s.thr t).pc = .tryC j (.cur l)) (hh : s.head = some l) :
      Step s (.hCas t true) (doPushed s t j l)
  | tCasFail (s : State) (t j : Nat) (x : Exp) (h : (s.thr t).pc = .tryC j x) (hh : expOf s.head ≠ x) :
      Step s (.hCas t false) (tryWith s t j (expOf s.head))
  | tCasSpur (s : State) (t j : Nat) (x x' : Exp) (h : (s.thr t).pc = .tryC j x) (hx : headObs s.head x') :
      Step s (.hSpur t x') (tryWith s t j x')
  | tResume (s : State) (t j : Nat) (h : (s.thr t).pc = .resume j) : Step s (.rel t j) (doResume s t j)
  /-- the waiter's side of its MutexEvent -/
  | tBLock (s : State) (t j : Nat) (h : (s.thr t).pc = .bLock j ∨ (s.thr t).pc = .bAsleep j)
      (hm : (s.job j).holder = none) : Step s (.lock t j) (doBLock s t j false)
  | tBSleep (s : State) (t j : Nat) (h : (s.thr t).pc = .bHeld j) : Step s (.unlock t j) (doBSleep s t j)
  | tBTimeout (s : State) (t j : Nat) (h : (s.thr t).pc = .bAsleep j) (hk : (s.job j).kind = .timed) :
      Step s (.timeout t j) (goto s t (.bTimedOut j))
  | tBLockT (s : State) (t j : Nat) (h : (s.thr t).pc = .bTimedOut j) (hm : (s.job j).holder = none) :
      Step s (.lock t j) (doBLock s t j true)
  | tBUnlockRet (s : State) (t j : Nat) (b : Bool) (h : (s.thr t).pc = .bUnlockRet j b) :
      Step s (.unlock t j) (doBUnlockRet s t j b)
  | tBDec (s : State) (t j : Nat) (b : Bool) (h : (s.thr t).pc = .bDec j b) :
      Step s (.jDec t j (s.job j).refs) (doBDec s t j b)
  | tRep (s : State) (t j : Nat) (b : Bool) (h : (s.thr t).pc = .rep j b) : Step s (.ret t j b) (doRep s t j b)

inductive Reachable (w : Workload) : State → Prop where
  | init : Reachable w (init w)
  | step {s l s'} : Reachable w s → Step s l s' → Reachable w s'

/-- executable transition function used by the trace validator (`ymdriver`) -/
def next (s : State) : Label → Option State
  | .fadd t k old =>
      if (s.thr t).pc = .idle ∧ old = s.count then
        match (s.thr t).prog with
        | .add k' :: _ => if k' = k then some (doAdd s t k) else none
        | .insert consume fs :: _ => if fs ≠ [] ∧ k = fs.length then some (doInsAdd s t consume fs) else none
        | _ => none
      else none
  | .fsub t k old =>
      if old = s.count then
        match (s.thr t).pc, (s.thr t).prog with
        | .idle, .done k' :: _ => if k' = k then some (doSub s t k k) else none
        | .insSub k', _ => if k' = k then some (doSub s t k k) else none
        | .cbSub, .fulfil f :: _ => if k = 1 then some (doCbSub s t f) else none
        | _, _ => none
      else none
  | .fLoad t f x =>
      match (s.thr t).pc, (s.thr t).prog with
      | .insReg (f' :: rest) c wc consume, _ =>
          if f' = f ∧ fLoadOk (s.fut f) x then some (doInsLoad s t f rest c wc consume x) else none
      | .idle, .ready f' :: _ =>
          if f' = f ∧ x = (s.fut f).word then
            some (goto s t (.rdy f (decide ((s.fut f).word = .result)) (s.fut f).completed))
          else none
      | _, _ => none
  | .fCas t f ok =>
      match (s.thr t).pc with
      | .insCas f' rest c wc consume =>
          if f' = f then
            if ok then (if (s.fut f).word = .empty then some (doInsCasOk s t f rest c wc consume) else none)
            else (if (s.fut f).word ≠ .empty then some (insFail s t f rest c wc consume) else none)
          else none
      | _ => none
  | .pXchg t f old =>
      if (s.thr t).pc = .idle ∧ old = (s.fut f).word then
        match (s.thr t).prog with
        | .fulfil f' :: _ => if f' = f then some (doFulfil s t f) else none
        | _ => none
      else none
  | .rdy t f b =>
      match (s.thr t).pc with
      | .rdy f' b' c => if f' = f ∧ b' = b then some (finish { s with readyObs := s.readyObs ++ [(f, b, c)] } t) else none
      | _ => none
  | .hLoad t x =>
      if headObs s.head x then
        match (s.thr t).pc, (s.thr t).prog with
        | .idle, op :: _ =>
            (match opKind op with
             | some k => some (doStartLoad s t k (opChecks op) x)
             | none => none)
        | .tryL j, _ => some (tryWith s t j x)
        | _, _ => none
      else none
  | .hCas t ok =>
      match (s.thr t).pc with
      | .tryC j x =>
          if ok then
            (match x, s.head with
             | .cur l, some l' => if l' = l then some (doPushed s t j l) else none
             | _, _ => none)
          else (if expOf s.head ≠ x then some (tryWith s t j (expOf s.head)) else none)
      | _ => none
  | .hSpur t x' =>
      match (s.thr t).pc with
      | .tryC j _ => if headObs s.head x' then some (tryWith s t j x') else none
      | _ => none
  | .hXchg t old => if (s.thr t).pc = .xchgHead ∧ old = s.head then some (doXchgHead s t) else none
  | .lock t j =>
      match (s.thr t).pc with
      | .run (j' :: rest) false =>
          if j' = j ∧ (s.job j).kind ≠ .coro ∧ (s.job j).holder = none then some (doRunLock s t j rest) else none
      | .bLock j' => if j' = j ∧ (s.job j).holder = none then some (doBLock s t j false) else none
      | .bAsleep j' => if j' = j ∧ (s.job j).holder = none then some (doBLock s t j false) else none
      | .bTimedOut j' => if j' = j ∧ (s.job j).holder = none then some (doBLock s t j true) else none
      | _ => none
  | .unlock t j =>
      match (s.thr t).pc with
      | .run (j' :: rest) true => if j' = j then some (doRunUnlock s t j rest) else none
      | .bHeld j' => if j' = j then some (doBSleep s t j) else none
      | .bUnlockRet j' b => if j' = j then some (doBUnlockRet s t j b) else none
      | _ => none
  | .timeout t j =>
      if (s.thr t).pc = .bAsleep j ∧ (s.job j).kind = .timed then some (goto s t (.bTimedOut j)) else none
  | .jDec t j old =>
      if old = (s.job j).refs then
        match (s.thr t).pc with
        | .runDec j' rest => if j' = j then some (doRunDec s t j rest) else none
        | .bDec j' b => if j' = j then some (doBDec s t j b) else none
        | _ => none
      else none
  | .ret t j b => if (s.thr t).pc = .rep j b then some (doRep s t j b) else none
  | .rel t j =>
      match (s.thr t).pc with
      | .run (j' :: rest) false => if j' = j ∧ (s.job j).kind = .coro then some (doRunRel s t j rest) else none
      | .resume j' => if j' = j then some (doResume s t j) else none
      | _ => none

theorem next_sound {s : State} {l : Label} {s' : State} (h : next s l = some s') : Step s l s' := by
  cases l with
  | fsub t k old =>
      simp only [next] at h; (repeat' split at h) <;> cases h <;> subst_vars
      · exact .tDone s t _ _ ‹_› ‹_›
      · exact .tInsSub s t _ ‹_›
      · exact .tCbSub s t _ _ ‹_› ‹_›
  | _ =>
      simp only [next] at h; (repeat' split at h) <;> cases h <;> (repeat cases ‹_ ∧ _›) <;>
        (try simp only [Bool.not_eq_true] at *) <;> subst_vars <;> constructor <;> first | assumption | simp_all

end Yaclib.Event
