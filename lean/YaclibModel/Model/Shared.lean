/-
C06 — SharedFuture / SharedPromise: the callback word of a shared core used as a lock-free stack, and the
reference counter that decides between copying and moving the value out.

Written from /repo (as it is):
  `BaseCore::SetCallbackImpl<true>`  load(acq); do { if (next == kResult) return false; cb.next = next; }
                                     while (!compare_exchange_weak(next, &cb, release, acquire)); return true
  `BaseCore::SetResultImpl<·,true>`  exchange(kResult, acq_rel); walk the list head → tail running every callback,
                                     `DecRef()` *before* the last one, two more `DecRef()` after it (three if the list was empty)
  `BaseCore::Ready`                  load(acq) == kResult               (since /repo c9c07bc; the pinned tree tested
                                     `!Empty()` = "word ≠ kEmpty", true while callbacks are merely registered: defect D3)
  `SharedPromise::Set / ~SharedPromise`, `SharedFutureBase::{Ready, Get const&, Get &&, Touch const&}`, `Wait`,
  `detail::SetCallback<…FromShared…>` + `Core::Impl` (inline: run now; `Call`: `caller.IncRef()`, Submit, later
  `Call()` + `caller->DecRef()`), `Connect(const SharedFutureBase&, Promise&&)` (Share / Split targets:
  `ResultCore::Impl`: `ref = caller.GetRef(); ref >= 3 ? copy : move; if (ref == 1) caller.DecRef()`),
  `SharedCore::Retire` (When*: `GetRef() == 1 ? move : copy; DecRef()`), `AtomicCounter::{Add, SubEqual, Get}`
  (`fetch_add` relaxed, `fetch_sub` release + acquire fence, `GetRef()` = load — acquire since the D9 fix; the order
  does not matter at this level, it is C04's matter), `MakeSharedContract` (`kSharedRefWithFuture = 4` = 3 references
  of the promise + 1 of the future).

Granularity: one step per atomic operation on the word (`load`, each `compare_exchange_weak` attempt incl. the
spurious failure, `exchange`) and on the reference counter (`fetch_add`, `fetch_sub`, `load`), and one per
client-visible event (callback body invoked, job submitted, target promise fulfilled, `Ready()` reported, `Get`
returned …).  Thread-local code between two such operations is folded into the following step: the plain
`Store(result)` into the `exchange`, `Retire()`'s read of the value into its `fetch_sub`.
A combinator (When*) callback is ENTERED (`Here(caller)`: by the fulfiller's walk, or inline by the registrar when the
word already holds the result) in one step and calls `Retire()` (`GetRef()` load, then read + `DecRef()`) in two later
steps of ANY thread, with any number of steps of others in between: the Managed strategies retire at once inside `Here`,
the Owned ones keep the core and retire in the combinator's destructor, possibly on another thread.
`MutexEvent::Set` (blocking `Wait`/`Get`) is one step; the mutex/condvar protocol itself is C01/C11's matter.

Threads: ONE fulfiller (owns the SharedPromise), ANY number of observers (`obs : Nat → Obs`, the first `n` of them
have a program and one SharedFuture copy each), and an anonymous pool of executor jobs (`jobs`).
Loads of the word that are mere pre-checks (`Ready`, the first load of `SetCallbackImpl`, the value a failed CAS
returns) may be stale: they may return any value the word has ever had (any suffix of the final list).
-/
namespace Yaclib.Shared

/-- what a Result can hold, abstracted -/
inductive Res where
  | val (n : Nat) | err | exc
  deriving DecidableEq, Repr

/-- what an attached callback does when it is run (`InlineCore::Here(caller)`) -/
inductive Kind where
  | inl      -- runs the user's function at once: SubscribeInline / ThenInline / a coroutine resumed by await_suspend
  | exec     -- `Call` cores (Then(e) / Subscribe(e)): `caller.IncRef()`, Submit; the job reads the value later, then `DecRef()`
  | event    -- the stack event of Wait / Get: releases the blocked waiter
  | target   -- another promise's core (Connect / Share / Split): `ResultCore::Impl` copies or moves the value into it
  | retire   -- a combinator callback that owns one reference (When*): entered, later `Retire()` = copy-or-move + `DecRef()`
  deriving DecidableEq, Repr

/-- a callback object: created by observer `owner` as its `seq`-th one -/
structure Cb where
  owner : Nat
  seq : Nat
  kind : Kind
  deriving DecidableEq, Repr

/-- the callback word: head of the intrusive LIFO list (`[]` = kEmpty) or kResult -/
inductive Word where
  | list (l : List Cb) | result
  deriving DecidableEq, Repr

inductive Prod where
  | set (r : Res)   -- SharedPromise::Set(value / error / exception); also a `SharedFuture` coroutine's co_return
  | drop            -- ~SharedPromise on a valid promise = Set(StopTag)
  /-- the shared core is ITSELF the callback of an upstream unique core (Split(f), Connect(f, SharedPromise)) that
      completes with `r`: it is entered through `SharedCore::Here` (`sym = false`: Promise::Set / Loop) or through
      `SharedCore::Next` (`sym = true`: a coroutine finishing in final_suspend, symmetric transfer).  Both are
      `ResultCore::Impl<·, true>` with a unique caller: `GetRef()` = 1, the value is moved in, `caller.DecRef()`, and then
      the very same `SetResultImpl<·, true>` — the steps on the shared core's word and counter do not differ -/
  | up (sym : Bool) (r : Res)
  deriving DecidableEq, Repr

def Prod.res : Prod → Res
  | .set r => r
  | .drop => .err
  | .up _ r => r

/-- observer operations, each on one of the observer's own SharedFuture copies -/
inductive Op where
  | attach (k : Kind)   -- `.event` = Wait(sf)
  | getc                -- Get() const& : Wait, then read
  | getMove             -- std::move(sf).Get() : Wait, `GetRef() == 1 ? move : copy`; the copy is destroyed afterwards
  | ready               -- Ready()
  | readyTouch          -- `if (sf.Ready()) use(sf.Touch())`  (also the fast path of `co_await sf`: await_ready / await_resume)
  | copy                -- copy-construct one more SharedFuture
  | drop                -- destroy one SharedFuture
  deriving DecidableEq, Repr

/-- the kind of callback an operation attaches -/
def opKind : Op → Option Kind
  | .attach k => some k
  | .getc => some .event
  | .getMove => some .event
  | _ => none

def isReadyOp : Op → Bool
  | .ready => true
  | .readyTouch => true
  | _ => false

structure Workload where
  prod : Prod
  progs : List (List Op)
  deriving Repr

/-- progress inside one callback's `Here()` -/
inductive FSt where
  | begin
  | incd              -- exec: `caller.IncRef()` done, Submit next
  | refd (n : Nat)    -- target: `GetRef()` returned n
  | post              -- target with ref == 1: `caller.DecRef()` done (shown unreachable for a shared caller)
  deriving DecidableEq, Repr

/-- observer program counter -/
inductive OPc where
  | idle
  | att (c : Cb) (e : List Cb)   -- SetCallbackImpl<true>: `next` = e, CAS next
  | run (c : Cb) (st : FSt)      -- the push failed (result present): the observer runs its callback itself
  | evt (c : Cb)                 -- Wait part of Wait/Get: returns once `c` has fired
  | rep (x : Word)               -- Ready(): loaded x, report next
  | touching                     -- Ready() was true: Touch() const& next
  | gotRef (n : Nat)             -- Get()&&: GetRef() returned n, read next
  deriving DecidableEq, Repr

/-- fulfiller program counter -/
inductive FPc where
  | start                                        -- before the exchange
  | walk (l : List Cb) (decd : Bool) (st : FSt)  -- callbacks not yet fired (head first); `decd`: the DecRef before the last one is done
  | dec (n : Nat)                                -- n trailing DecRef()s to go; `dec 0` = finished
  deriving DecidableEq, Repr

structure Obs where
  pc : OPc
  todo : List Op
  /-- references to the core this thread owns: its SharedFuture copies, an `IncRef` made for a job that is not
      submitted yet, the reference of a When-style callback that is not pushed yet -/
  refs : Nat
  seq : Nat
  deriving Repr

structure State where
  w : Workload
  n : Nat                          -- number of observers that have a program
  word : Word
  stored : Option Res              -- result storage; `none` = not constructed
  count : Nat                      -- AtomicCounter::count of the core
  fpc : FPc
  obs : Nat → Obs
  jobs : List Cb                   -- `exec` callbacks submitted to their executor, not called yet
  jobsRun : List Cb                -- called (value read), `caller->DecRef()` pending
  rets : List Cb                   -- `retire` callbacks that were entered and still own their reference: Retire() pending
  retsLd : List (Cb × Nat)         -- … whose Retire() has read `GetRef()` = n
  -- ghost
  chain : List Cb                  -- every callback ever pushed, newest first (= the list while the word is a list)
  holders : Nat                    -- Σ refs
  registered : List Cb             -- callback objects created (SetCallback called with them)
  inflight : List Cb               -- … that are still in their owner's hands (being pushed / being run inline)
  fired : List (Cb × Option Res)   -- callback ran (entered) / waiter released / target fulfilled: with the storage content it saw
  retired : List (Cb × Option Res × Bool)   -- Retire() returned: value, moved?
  got : List (Nat × Option Res × Bool)      -- Get()&& returned: thread, value, moved?
  getcObs : List (Nat × Option Res)         -- Get() const& returned
  readyObs : List (Word × Bool)    -- Ready(): the word value it loaded, was the storage constructed when it reported
  touchObs : List (Option Res)     -- what `Touch() const&` after `Ready() == true` read
  movedOut : Bool                  -- somebody moved the value out of the core
  freed : Nat                      -- number of times the core was deleted

def upd (f : Nat → Obs) (t : Nat) (o : Obs) : Nat → Obs := fun j => if j = t then o else f j

/-- the promise's share of `kSharedRefWithFuture = 4` (= `kSharedRefNoFuture`) -/
def promiseRefs : Nat := 3

def init (w : Workload) : State :=
  { w := w, n := w.progs.length, word := .list [], stored := none, count := promiseRefs + w.progs.length, fpc := .start,
    obs := fun t => { pc := .idle, todo := w.progs.getD t [], refs := if t < w.progs.length then 1 else 0, seq := 0 },
    jobs := [], jobsRun := [], rets := [], retsLd := [], retired := [], chain := [], holders := w.progs.length, registered := [], inflight := [], fired := [],
    got := [], getcObs := [], readyObs := [], touchObs := [], movedOut := false, freed := 0 }

inductive Label where
  -- fulfiller
  | fXchg (old : Word)                                  -- exchange(kResult, acq_rel) → old
  | fDec (n : Nat)                                      -- DecRef(): fetch_sub(1, release) → n
  | fInvoke (c : Cb) (r : Option Res)                   -- inline callback body runs, sees r
  | fSet (c : Cb)                                       -- MutexEvent::Set of a waiter
  | fIncRef (n : Nat)                                   -- exec: caller.IncRef(): fetch_add(1, relaxed) → n
  | fSubmit (c : Cb)
  | fRefLoad (n : Nat)                                  -- target: GetRef(): load → n
  | fForward (c : Cb) (r : Option Res) (mv : Bool)      -- target promise fulfilled with r (moved out of the core?)
  | fEnter (c : Cb)                                     -- a combinator callback is entered by the walk
  -- observer t
  | oLoad (t : Nat) (x : Word)                          -- SetCallbackImpl: first load
  | oCasOk (t : Nat)
  | oCasFail (t : Nat) (x : Word)                       -- compare_exchange_weak failed, `next` := x
  | oCasSpur (t : Nat) (x : Word)                       -- … spuriously
  | oInvoke (t : Nat) (c : Cb) (r : Option Res)
  | oIncRef (t : Nat) (n : Nat)
  | oSubmit (t : Nat) (c : Cb)
  | oForward (t : Nat) (c : Cb) (r : Option Res)        -- Connect's else-branch: `p.Set(f.Touch())`, always a copy
  | oEnter (t : Nat) (c : Cb)                           -- … or inline by its registrar
  | oWaited (t : Nat)
  | oGetc (t : Nat) (r : Option Res)
  | oGetRef (t : Nat) (n : Nat)
  | oGot (t : Nat) (r : Option Res) (mv : Bool)
  | oRdLoad (t : Nat) (x : Word)                        -- Ready(): BaseCore::Ready()'s load
  | oReady (t : Nat) (b : Bool)
  | oTouch (t : Nat) (r : Option Res)
  | oCopy (t : Nat) (n : Nat)
  | oDrop (t : Nat) (n : Nat)
  -- executor jobs
  | jInvoke (c : Cb) (r : Option Res)
  | jDec (c : Cb) (n : Nat)
  -- Retire() of an entered combinator callback, by whoever holds the combinator
  | rRefLoad (c : Cb) (n : Nat)                         -- GetRef(): load → n
  | rRetire (c : Cb) (r : Option Res) (mv : Bool) (n : Nat)   -- read r (moved iff GetRef() was 1), DecRef(): fetch_sub → n
  deriving DecidableEq, Repr

/-! ### effects -/

/-- `l` is a value the word has had: a suffix of the chain -/
def staleOk (l chain : List Cb) : Prop := chain.drop (chain.length - l.length) = l

instance (l chain : List Cb) : Decidable (staleOk l chain) := by unfold staleOk; exact inferInstance

/-- values a (non-RMW) load of the word may return -/
def loadOk (s : State) : Word → Prop
  | .result => s.word = .result
  | .list l => staleOk l s.chain

instance (s : State) (x : Word) : Decidable (loadOk s x) := by cases x <;> (unfold loadOk; exact inferInstance)

/-- DecRef(): fetch_sub(1); the thread that takes the counter to zero deletes the core -/
def decCount (s : State) : State :=
  { s with count := s.count - 1, freed := if s.count = 1 then s.freed + 1 else s.freed }

def nextOp (o : Obs) : Obs := { o with pc := .idle, todo := o.todo.tail }

/-- where the walk goes after the head has been fired -/
def advance (rest : List Cb) : FPc := if rest = [] then .dec 2 else .walk rest false .begin

/-- the last callback is run only after the first DecRef() -/
def canFire (rest : List Cb) (d : Bool) : Prop := rest = [] → d = true

instance (rest : List Cb) (d : Bool) : Decidable (canFire rest d) := by unfold canFire; exact inferInstance

def doXchg (s : State) (l : List Cb) : State :=
  { s with word := .result, stored := some s.w.prod.res, fpc := if l = [] then .dec 3 else .walk l false .begin }

def doFFire (s : State) (c : Cb) (rest : List Cb) : State :=
  { s with fpc := advance rest, fired := s.fired ++ [(c, s.stored)] }

def doFForward (s : State) (c : Cb) (rest : List Cb) (mv : Bool) : State :=
  { s with fpc := advance rest, fired := s.fired ++ [(c, s.stored)], movedOut := s.movedOut || mv }

def doFEnter (s : State) (c : Cb) (rest : List Cb) : State :=
  { s with fpc := advance rest, fired := s.fired ++ [(c, s.stored)], rets := s.rets ++ [c] }

/-- SetCallbackImpl saw kResult: `return false`.  A waiter simply does not wait; everything else runs its callback itself. -/
def failPath (s : State) (t : Nat) (o : Obs) (c : Cb) : State :=
  if c.kind = .event then
    { s with obs := upd s.obs t { o with pc := .evt c }, fired := s.fired ++ [(c, s.stored)], inflight := s.inflight.erase c }
  else { s with obs := upd s.obs t { o with pc := .run c .begin } }

/-- `next` := x; leave the loop if it is kResult -/
def reload (s : State) (t : Nat) (o : Obs) (c : Cb) (x : Word) : State :=
  match x with
  | .list l => { s with obs := upd s.obs t { o with pc := .att c l } }
  | .result => failPath s t o c

def doLoad (s : State) (t : Nat) (k : Kind) (x : Word) : State :=
  let o := s.obs t
  let c : Cb := ⟨t, o.seq, k⟩
  reload { s with registered := s.registered ++ [c], inflight := s.inflight ++ [c] } t { o with seq := o.seq + 1 } c x

def doCasOk (s : State) (t : Nat) (c : Cb) (e : List Cb) : State :=
  let o := s.obs t
  if c.kind = .event then
    { s with word := .list (c :: e), chain := c :: s.chain, inflight := s.inflight.erase c,
             obs := upd s.obs t { o with pc := .evt c } }
  else if c.kind = .retire then
    -- the callback now owns the reference the future had (`GetCore().Release()`)
    { s with word := .list (c :: e), chain := c :: s.chain, inflight := s.inflight.erase c, holders := s.holders - 1,
             obs := upd s.obs t { nextOp o with refs := o.refs - 1 } }
  else
    { s with word := .list (c :: e), chain := c :: s.chain, inflight := s.inflight.erase c, obs := upd s.obs t (nextOp o) }

def doOInvoke (s : State) (t : Nat) (c : Cb) : State :=
  { s with fired := s.fired ++ [(c, s.stored)], inflight := s.inflight.erase c, obs := upd s.obs t (nextOp (s.obs t)) }

def doOIncRef (s : State) (t : Nat) (c : Cb) : State :=
  let o := s.obs t
  { s with count := s.count + 1, holders := s.holders + 1, obs := upd s.obs t { o with pc := .run c .incd, refs := o.refs + 1 } }

def doOSubmit (s : State) (t : Nat) (c : Cb) : State :=
  let o := s.obs t
  { s with jobs := s.jobs ++ [c], inflight := s.inflight.erase c, holders := s.holders - 1,
           obs := upd s.obs t { nextOp o with refs := o.refs - 1 } }

/-- the registrar enters its own combinator callback: the reference the future had now belongs to the combinator -/
def doOEnter (s : State) (t : Nat) (c : Cb) : State :=
  let o := s.obs t
  { s with fired := s.fired ++ [(c, s.stored)], inflight := s.inflight.erase c, rets := s.rets ++ [c],
           holders := s.holders - 1, obs := upd s.obs t { nextOp o with refs := o.refs - 1 } }

def doGetc (s : State) (t : Nat) : State :=
  { s with getcObs := s.getcObs ++ [(t, s.stored)], obs := upd s.obs t (nextOp (s.obs t)) }

def doGot (s : State) (t : Nat) (mv : Bool) : State :=
  let o := s.obs t
  { s with got := s.got ++ [(t, s.stored, mv)], movedOut := s.movedOut || mv,
           obs := upd s.obs t { o with pc := .idle, todo := .drop :: o.todo.tail } }

/-- after `Ready()` reported: `readyTouch` goes on to `Touch()` if it was true -/
def readyNext (o : Obs) (x : Word) : Obs :=
  if x = .result ∧ o.todo.head? = some .readyTouch then { o with pc := .touching } else nextOp o

def doReady (s : State) (t : Nat) (x : Word) : State :=
  { s with readyObs := s.readyObs ++ [(x, s.stored.isSome)], obs := upd s.obs t (readyNext (s.obs t) x) }

def doTouch (s : State) (t : Nat) : State :=
  { s with touchObs := s.touchObs ++ [s.stored], obs := upd s.obs t (nextOp (s.obs t)) }

def doCopy (s : State) (t : Nat) : State :=
  let o := s.obs t
  { s with count := s.count + 1, holders := s.holders + 1, obs := upd s.obs t { nextOp o with refs := o.refs + 1 } }

def doDrop (s : State) (t : Nat) : State :=
  let o := s.obs t
  { decCount s with holders := s.holders - 1, obs := upd s.obs t { nextOp o with refs := o.refs - 1 } }

def doJInvoke (s : State) (c : Cb) : State :=
  { s with fired := s.fired ++ [(c, s.stored)], jobs := s.jobs.erase c, jobsRun := s.jobsRun ++ [c] }

def doJDec (s : State) (c : Cb) : State :=
  { decCount s with jobsRun := s.jobsRun.erase c }

def doRRefLoad (s : State) (c : Cb) : State :=
  { s with rets := s.rets.erase c, retsLd := s.retsLd ++ [(c, s.count)] }

def doRRetire (s : State) (c : Cb) (n : Nat) : State :=
  { decCount s with retsLd := s.retsLd.erase (c, n), retired := s.retired ++ [(c, s.stored, decide (n = 1))],
                    movedOut := s.movedOut || decide (n = 1) }

def firedIds (s : State) : List Cb := s.fired.map (·.1)

inductive Step : State → Label → State → Prop where
  /-- SharedPromise::Set / ~SharedPromise / SharedCore::Here / SharedCore::Next: Store, then `exchange(kResult)` -/
  | fXchg (s : State) (l : List Cb) (h : s.fpc = .start) (hw : s.word = .list l) : Step s (.fXchg (.list l)) (doXchg s l)
  /-- the DecRef() placed before the last callback -/
  | fDec1 (s : State) (c : Cb) (h : s.fpc = .walk [c] false .begin) :
      Step s (.fDec s.count) { decCount s with fpc := .walk [c] true .begin }
  | fInvoke (s : State) (c : Cb) (rest : List Cb) (d : Bool) (h : s.fpc = .walk (c :: rest) d .begin)
      (hk : c.kind = .inl) (hf : canFire rest d) : Step s (.fInvoke c s.stored) (doFFire s c rest)
  | fSet (s : State) (c : Cb) (rest : List Cb) (d : Bool) (h : s.fpc = .walk (c :: rest) d .begin)
      (hk : c.kind = .event) (hf : canFire rest d) : Step s (.fSet c) (doFFire s c rest)
  | fIncRef (s : State) (c : Cb) (rest : List Cb) (d : Bool) (h : s.fpc = .walk (c :: rest) d .begin)
      (hk : c.kind = .exec) (hf : canFire rest d) :
      Step s (.fIncRef s.count) { s with count := s.count + 1, fpc := .walk (c :: rest) d .incd }
  | fSubmit (s : State) (c : Cb) (rest : List Cb) (d : Bool) (h : s.fpc = .walk (c :: rest) d .incd) :
      Step s (.fSubmit c) { s with fpc := advance rest, jobs := s.jobs ++ [c] }
  /-- ResultCore::Impl: `GetRef()` -/
  | fRefLoad (s : State) (c : Cb) (rest : List Cb) (d : Bool) (h : s.fpc = .walk (c :: rest) d .begin)
      (hk : c.kind = .target) (hf : canFire rest d) :
      Step s (.fRefLoad s.count) { s with fpc := .walk (c :: rest) d (.refd s.count) }
  /-- ResultCore::Impl: `if (ref == 1) caller.DecRef()` -/
  | fTargetDec (s : State) (c : Cb) (rest : List Cb) (d : Bool) (h : s.fpc = .walk (c :: rest) d (.refd 1))
      (hk : c.kind = .target) : Step s (.fDec s.count) { decCount s with fpc := .walk (c :: rest) d .post }
  /-- ResultCore::Impl: `ref >= 3` copies, otherwise moves; then the target's own SetResult -/
  | fForward (s : State) (c : Cb) (rest : List Cb) (d : Bool) (n : Nat) (h : s.fpc = .walk (c :: rest) d (.refd n))
      (hk : c.kind = .target) (hn : n ≠ 1) :
      Step s (.fForward c s.stored (decide (n < 3))) (doFForward s c rest (decide (n < 3)))
  | fForwardPost (s : State) (c : Cb) (rest : List Cb) (d : Bool) (h : s.fpc = .walk (c :: rest) d .post)
      (hk : c.kind = .target) : Step s (.fForward c s.stored true) (doFForward s c rest true)
  /-- a combinator callback's `Here(caller)`: from now on the combinator may `Retire()` -/
  | fEnter (s : State) (c : Cb) (rest : List Cb) (d : Bool) (h : s.fpc = .walk (c :: rest) d .begin)
      (hk : c.kind = .retire) (hf : canFire rest d) : Step s (.fEnter c) (doFEnter s c rest)
  /-- the trailing DecRef()s -/
  | fDec (s : State) (k : Nat) (h : s.fpc = .dec (k + 1)) : Step s (.fDec s.count) { decCount s with fpc := .dec k }
  /-- SetCallbackImpl<true>: the first load (may be stale) -/
  | oLoad (s : State) (t : Nat) (op : Op) (rest : List Op) (k : Kind) (x : Word)
      (h : (s.obs t).pc = .idle) (ht : (s.obs t).todo = op :: rest) (hk : opKind op = some k)
      (hr : 0 < (s.obs t).refs) (hx : loadOk s x) : Step s (.oLoad t x) (doLoad s t k x)
  | oCasOk (s : State) (t : Nat) (c : Cb) (e : List Cb) (h : (s.obs t).pc = .att c e) (hw : s.word = .list e) :
      Step s (.oCasOk t) (doCasOk s t c e)
  | oCasFail (s : State) (t : Nat) (c : Cb) (e : List Cb) (x : Word) (h : (s.obs t).pc = .att c e)
      (hw : s.word ≠ .list e) (hx : loadOk s x) : Step s (.oCasFail t x) (reload s t (s.obs t) c x)
  | oCasSpur (s : State) (t : Nat) (c : Cb) (e : List Cb) (x : Word) (h : (s.obs t).pc = .att c e)
      (hw : s.word = .list e) (hx : loadOk s x) : Step s (.oCasSpur t x) (reload s t (s.obs t) c x)
  /-- the observer found the result: it runs its own callback (`Step(*this, callback)` → `Loop`) -/
  | oInvoke (s : State) (t : Nat) (c : Cb) (h : (s.obs t).pc = .run c .begin) (hk : c.kind = .inl) :
      Step s (.oInvoke t c s.stored) (doOInvoke s t c)
  | oIncRef (s : State) (t : Nat) (c : Cb) (h : (s.obs t).pc = .run c .begin) (hk : c.kind = .exec) :
      Step s (.oIncRef t s.count) (doOIncRef s t c)
  | oSubmit (s : State) (t : Nat) (c : Cb) (h : (s.obs t).pc = .run c .incd) : Step s (.oSubmit t c) (doOSubmit s t c)
  | oForward (s : State) (t : Nat) (c : Cb) (h : (s.obs t).pc = .run c .begin) (hk : c.kind = .target) :
      Step s (.oForward t c s.stored) (doOInvoke s t c)
  | oEnter (s : State) (t : Nat) (c : Cb) (h : (s.obs t).pc = .run c .begin) (hk : c.kind = .retire) :
      Step s (.oEnter t c) (doOEnter s t c)
  /-- Wait(sf) returned -/
  | oWaited (s : State) (t : Nat) (c : Cb) (rest : List Op) (h : (s.obs t).pc = .evt c)
      (ht : (s.obs t).todo = .attach .event :: rest) (hf : c ∈ firedIds s) :
      Step s (.oWaited t) { s with obs := upd s.obs t (nextOp (s.obs t)) }
  /-- Get() const&: Wait, read -/
  | oGetc (s : State) (t : Nat) (c : Cb) (rest : List Op) (h : (s.obs t).pc = .evt c)
      (ht : (s.obs t).todo = .getc :: rest) (hf : c ∈ firedIds s) : Step s (.oGetc t s.stored) (doGetc s t)
  /-- Get() &&: Wait, `GetRef() == 1` ? move : copy -/
  | oGetRef (s : State) (t : Nat) (c : Cb) (rest : List Op) (h : (s.obs t).pc = .evt c)
      (ht : (s.obs t).todo = .getMove :: rest) (hf : c ∈ firedIds s) :
      Step s (.oGetRef t s.count) { s with obs := upd s.obs t { s.obs t with pc := .gotRef s.count } }
  | oGot (s : State) (t : Nat) (n : Nat) (h : (s.obs t).pc = .gotRef n) :
      Step s (.oGot t s.stored (decide (n = 1))) (doGot s t (decide (n = 1)))
  /-- Ready(): `BaseCore::Ready()`, one acquire load (may be stale), true iff it saw kResult -/
  | oRdLoad (s : State) (t : Nat) (op : Op) (rest : List Op) (x : Word) (h : (s.obs t).pc = .idle)
      (ht : (s.obs t).todo = op :: rest) (hop : isReadyOp op = true) (hr : 0 < (s.obs t).refs) (hx : loadOk s x) :
      Step s (.oRdLoad t x) { s with obs := upd s.obs t { s.obs t with pc := .rep x } }
  | oReady (s : State) (t : Nat) (x : Word) (h : (s.obs t).pc = .rep x) :
      Step s (.oReady t (decide (x = .result))) (doReady s t x)
  | oTouch (s : State) (t : Nat) (h : (s.obs t).pc = .touching) : Step s (.oTouch t s.stored) (doTouch s t)
  | oCopy (s : State) (t : Nat) (rest : List Op) (h : (s.obs t).pc = .idle) (ht : (s.obs t).todo = .copy :: rest)
      (hr : 0 < (s.obs t).refs) : Step s (.oCopy t s.count) (doCopy s t)
  | oDrop (s : State) (t : Nat) (rest : List Op) (h : (s.obs t).pc = .idle) (ht : (s.obs t).todo = .drop :: rest)
      (hr : 0 < (s.obs t).refs) : Step s (.oDrop t s.count) (doDrop s t)
  /-- an executor runs a submitted job: `Call()` reads the value …  -/
  | jInvoke (s : State) (c : Cb) (h : c ∈ s.jobs) : Step s (.jInvoke c s.stored) (doJInvoke s c)
  /-- … and `Done()` releases the reference taken in `Impl` -/
  | jDec (s : State) (c : Cb) (h : c ∈ s.jobsRun) : Step s (.jDec c s.count) (doJDec s c)
  /-- SharedCore::Retire, first half: `GetRef()` -/
  | rRefLoad (s : State) (c : Cb) (h : c ∈ s.rets) : Step s (.rRefLoad c s.count) (doRRefLoad s c)
  /-- … second half: `== 1 ? move : copy`, `DecRef()` -/
  | rRetire (s : State) (c : Cb) (n : Nat) (h : (c, n) ∈ s.retsLd) :
      Step s (.rRetire c s.stored (decide (n = 1)) s.count) (doRRetire s c n)

inductive Reachable (w : Workload) : State → Prop where
  | init : Reachable w (init w)
  | step {s l s'} : Reachable w s → Step s l s' → Reachable w s'

/-- executable transition function used by the trace validator (`ymdriver`) -/
def next (s : State) : Label → Option State
  | .fXchg old =>
      match s.word with
      | .list l => if s.fpc = .start ∧ old = .list l then some (doXchg s l) else none
      | .result => none
  | .fDec n =>
      if n = s.count then
        match s.fpc with
        | .walk [c] false .begin => some { decCount s with fpc := .walk [c] true .begin }
        | .walk (c :: rest) d (.refd 1) =>
            if c.kind = .target then some { decCount s with fpc := .walk (c :: rest) d .post } else none
        | .dec (k + 1) => some { decCount s with fpc := .dec k }
        | _ => none
      else none
  | .fInvoke c r =>
      match s.fpc with
      | .walk (c' :: rest) d .begin =>
          if c' = c ∧ c.kind = .inl ∧ canFire rest d ∧ r = s.stored then some (doFFire s c rest) else none
      | _ => none
  | .fSet c =>
      match s.fpc with
      | .walk (c' :: rest) d .begin =>
          if c' = c ∧ c.kind = .event ∧ canFire rest d then some (doFFire s c rest) else none
      | _ => none
  | .fIncRef n =>
      match s.fpc with
      | .walk (c :: rest) d .begin =>
          if c.kind = .exec ∧ canFire rest d ∧ n = s.count
          then some { s with count := s.count + 1, fpc := .walk (c :: rest) d .incd } else none
      | _ => none
  | .fSubmit c =>
      match s.fpc with
      | .walk (c' :: rest) _ .incd => if c' = c then some { s with fpc := advance rest, jobs := s.jobs ++ [c] } else none
      | _ => none
  | .fRefLoad n =>
      match s.fpc with
      | .walk (c :: rest) d .begin =>
          if c.kind = .target ∧ canFire rest d ∧ n = s.count
          then some { s with fpc := .walk (c :: rest) d (.refd s.count) } else none
      | _ => none
  | .fForward c r mv =>
      match s.fpc with
      | .walk (c' :: rest) _ (.refd n) =>
          if c' = c ∧ c.kind = .target ∧ n ≠ 1 ∧ r = s.stored ∧ mv = decide (n < 3)
          then some (doFForward s c rest (decide (n < 3))) else none
      | .walk (c' :: rest) _ .post =>
          if c' = c ∧ c.kind = .target ∧ r = s.stored ∧ mv = true then some (doFForward s c rest true) else none
      | _ => none
  | .fEnter c =>
      match s.fpc with
      | .walk (c' :: rest) d .begin =>
          if c' = c ∧ c.kind = .retire ∧ canFire rest d then some (doFEnter s c rest) else none
      | _ => none
  | .oLoad t x =>
      if (s.obs t).pc = .idle ∧ 0 < (s.obs t).refs ∧ loadOk s x then
        match (s.obs t).todo with
        | op :: _ => (match opKind op with
            | some k => some (doLoad s t k x)
            | none => none)
        | [] => none
      else none
  | .oCasOk t =>
      match (s.obs t).pc with
      | .att c e => if s.word = .list e then some (doCasOk s t c e) else none
      | _ => none
  | .oCasFail t x =>
      match (s.obs t).pc with
      | .att c e => if s.word ≠ .list e ∧ loadOk s x then some (reload s t (s.obs t) c x) else none
      | _ => none
  | .oCasSpur t x =>
      match (s.obs t).pc with
      | .att c e => if s.word = .list e ∧ loadOk s x then some (reload s t (s.obs t) c x) else none
      | _ => none
  | .oInvoke t c r =>
      if (s.obs t).pc = .run c .begin ∧ c.kind = .inl ∧ r = s.stored then some (doOInvoke s t c) else none
  | .oIncRef t n =>
      match (s.obs t).pc with
      | .run c .begin => if c.kind = .exec ∧ n = s.count then some (doOIncRef s t c) else none
      | _ => none
  | .oSubmit t c => if (s.obs t).pc = .run c .incd then some (doOSubmit s t c) else none
  | .oForward t c r =>
      if (s.obs t).pc = .run c .begin ∧ c.kind = .target ∧ r = s.stored then some (doOInvoke s t c) else none
  | .oEnter t c => if (s.obs t).pc = .run c .begin ∧ c.kind = .retire then some (doOEnter s t c) else none
  | .oWaited t =>
      match (s.obs t).pc, (s.obs t).todo with
      | .evt c, .attach .event :: _ => if c ∈ firedIds s then some { s with obs := upd s.obs t (nextOp (s.obs t)) } else none
      | _, _ => none
  | .oGetc t r =>
      match (s.obs t).pc, (s.obs t).todo with
      | .evt c, .getc :: _ => if c ∈ firedIds s ∧ r = s.stored then some (doGetc s t) else none
      | _, _ => none
  | .oGetRef t n =>
      match (s.obs t).pc, (s.obs t).todo with
      | .evt c, .getMove :: _ =>
          if c ∈ firedIds s ∧ n = s.count then some { s with obs := upd s.obs t { s.obs t with pc := .gotRef s.count } } else none
      | _, _ => none
  | .oGot t r mv =>
      match (s.obs t).pc with
      | .gotRef n => if r = s.stored ∧ mv = decide (n = 1) then some (doGot s t (decide (n = 1))) else none
      | _ => none
  | .oRdLoad t x =>
      if (s.obs t).pc = .idle ∧ 0 < (s.obs t).refs ∧ loadOk s x then
        match (s.obs t).todo with
        | op :: _ => if isReadyOp op = true then some { s with obs := upd s.obs t { s.obs t with pc := .rep x } } else none
        | [] => none
      else none
  | .oReady t b =>
      match (s.obs t).pc with
      | .rep x => if b = decide (x = .result) then some (doReady s t x) else none
      | _ => none
  | .oTouch t r => if (s.obs t).pc = .touching ∧ r = s.stored then some (doTouch s t) else none
  | .oCopy t n =>
      if (s.obs t).pc = .idle ∧ 0 < (s.obs t).refs ∧ n = s.count then
        match (s.obs t).todo with
        | .copy :: _ => some (doCopy s t)
        | _ => none
      else none
  | .oDrop t n =>
      if (s.obs t).pc = .idle ∧ 0 < (s.obs t).refs ∧ n = s.count then
        match (s.obs t).todo with
        | .drop :: _ => some (doDrop s t)
        | _ => none
      else none
  | .jInvoke c r => if c ∈ s.jobs ∧ r = s.stored then some (doJInvoke s c) else none
  | .jDec c n => if c ∈ s.jobsRun ∧ n = s.count then some (doJDec s c) else none
  | .rRefLoad c n => if c ∈ s.rets ∧ n = s.count then some (doRRefLoad s c) else none
  | .rRetire c r mv n =>
      match s.retsLd.find? (fun p => p.1 = c) with
      | some (c', m) =>
          if c' = c ∧ (c, m) ∈ s.retsLd ∧ r = s.stored ∧ mv = decide (m = 1) ∧ n = s.count then some (doRRetire s c m) else none
      | none => none

/-- labels of steps that read the result storage -/
def Label.reads : Label → Bool
  | .fInvoke .. => true | .fForward .. => true | .rRetire .. => true
  | .oInvoke .. => true | .oForward .. => true
  | .oGetc .. => true | .oGot .. => true | .oTouch .. => true | .jInvoke .. => true
  | _ => false

/-- labels of steps that move the value out -/
def Label.moves : Label → Bool
  | .fForward _ _ mv => mv | .rRetire _ _ mv _ => mv | .oGot _ _ mv => mv
  | _ => false

theorem next_sound {s : State} {l : Label} {s' : State} (h : next s l = some s') : Step s l s' := by
  cases l <;> simp only [next] at h <;> (repeat' split at h) <;> cases h <;> (repeat cases ‹_ ∧ _›) <;>
    (try simp only [Bool.not_eq_true] at *) <;> subst_vars <;> constructor <;> first | assumption | simp_all

end Yaclib.Shared
