/-
C18 — the yaclib_std locks, condition variable and thread of the FIBER backend.

Common layer + the model `Mx` of `fiber::Mutex`, `fiber::TimedMutex` and `fiber::ConditionVariable`
(the two primitives the library proper uses, and the ones expected to be correct).

Written from /repo: src/fault/fiber/{mutex,condition_variable,queue,scheduler}.cpp,
include/yaclib/fault/detail/fiber/{mutex,timed_mutex,condition_variable,queue}.hpp.

Scheduler abstraction (cooperative): all "threads" are fibers on one OS thread, a fiber runs *atomically* from
one switch point (`Suspend`, i.e. a park on a wait queue / the sleep list / a join, or an injected yield) to the
next.  One `Step` = one such atomic segment that touches the primitive.  The run queue is not modelled: any fiber
that is not blocked may take its next step at any time (a superset of what the real scheduler does; injected
yields are therefore invisible).  `NotifyOne` makes a *scheduler-chosen* waiter runnable (the label carries the
choice) — it does not hand over the lock.  Virtual time is a number carried by the labels that read the clock;
it never decreases.

Fibers are natural numbers and there are unboundedly many of them; every idle fiber may start any operation at
any time (so "all op sequences of k fibers" is built in), or `finish`.  The only discipline assumed is the
std contract that the caller of `unlock` / `cv.wait` holds the lock (`f ∈ holders`).

History: until the fix commits 32ae58e (TimedMutex) and 33a96a1 (Scheduler) the code had
  D6  `TimedMutex::TimedWaitHelper` took the lock after a wake-up without re-checking `_occupied` (single `if`): two
      holders of a `timed_mutex` after barging — scenario `timed f0=L,U f1=F50,U f2=L,U`,
      choices `k0/3 p1/2 k0/2 x0/2 k1/2 p0/2 k0/3 p1/2 k0/2 k0/2`;
  D8  `Scheduler::SleepPreemptive` dereferenced `_sleep_list.end()` when the jittered deadline equalled the current time —
      scenario `timed f0=L,U f1=F0,U`, choices `k0/2 p1/2 x0/2 p0/2 p0/2`;
and this model contained them (rule `tlfWokenAcq`, ghost counters `barge`, `endDeref`; see git history and
notes/C18.md).  It now describes the repaired code: `while (r && _occupied) r = _queue.Wait(deadline) == Ready;` with the
deadline computed once at the call.
-/
namespace Yaclib.FiberSync

abbrev Fid := Nat

/-- function update -/
def upd {α : Type} (m : Fid → α) (f : Fid) (x : α) : Fid → α := fun g => if g = f then x else m g

@[simp] theorem upd_same {α : Type} (m : Fid → α) (f : Fid) (x : α) : upd m f x f = x := by simp [upd]
theorem upd_other {α : Type} (m : Fid → α) {f g : Fid} (x : α) (h : g ≠ f) : upd m f x g = m g := by simp [upd, h]
theorem upd_apply {α : Type} (m : Fid → α) (f g : Fid) (x : α) : upd m f x g = if g = f then x else m g := rfl

/-- remove a fiber from a wait queue (`Node::Erase`) -/
def rm (q : List Fid) (f : Fid) : List Fid := q.filter (fun g => g ≠ f)

theorem mem_rm {q : List Fid} {f g : Fid} : g ∈ rm q f ↔ g ∈ q ∧ g ≠ f := by simp [rm]
theorem not_mem_rm_self (q : List Fid) (f : Fid) : f ∉ rm q f := by simp [rm]
theorem rm_ne_nil {q : List Fid} {f g : Fid} (h : g ∈ q) (hne : g ≠ f) : rm q f ≠ [] := by
  intro h0
  have : g ∈ rm q f := mem_rm.mpr ⟨h, hne⟩
  rw [h0] at this; cases this

/-- the choice a `NotifyOne` makes on queue `q`: nobody iff the queue is empty, else a member -/
def PickOk (q : List Fid) : Option Fid → Prop
  | none => q = []
  | some g => g ∈ q

instance (q : List Fid) (w : Option Fid) : Decidable (PickOk q w) := by
  cases w <;> simp only [PickOk] <;> exact inferInstance

end Yaclib.FiberSync

namespace Yaclib.FiberSync.Mx

/-- what `Mutex::lock` was called for -/
inductive Kont where
  | plain                 -- `mutex.lock()`
  | cv (tmo : Bool)       -- the re-lock at the end of `ConditionVariable::WaitImpl` (after a timeout?)
  deriving DecidableEq, Repr

inductive Pc where
  | idle | done
  | locking (k : Kont)          -- inside `Mutex::lock`, about to evaluate `while (_occupied)`
  | lockParked (k : Kont)       -- parked on the mutex queue by `Mutex::lock`
  | tlfParked (req dl : Nat)    -- `TimedMutex::TimedWaitHelper`: on the mutex queue and the sleep list
  | tlfLocking (req : Nat)      -- … notified: evaluates `while (r && _occupied)` again
  | cvParked                    -- `cv.wait`: mutex released, on the cv queue
  | cvTimed (req dl : Nat)      -- `cv.wait_for`: on the cv queue and the sleep list
  | sleeping (dl : Nat)         -- `this_thread::sleep_for`
  deriving DecidableEq, Repr

/-- notified waiters that have not run yet -/
def Pc.woken : Pc → Bool
  | .locking _ => true
  | .tlfLocking _ => true
  | _ => false

def Pc.inMq : Pc → Bool
  | .lockParked _ => true
  | .tlfParked _ _ => true
  | _ => false

def Pc.inCq : Pc → Bool
  | .cvParked => true
  | .cvTimed _ _ => true
  | _ => false

/-- the state in which a fiber removed from the mutex queue by `NotifyOne` resumes -/
def wake : Pc → Pc
  | .lockParked k => .locking k
  | .tlfParked req _ => .tlfLocking req
  | p => p

structure State where
  timed : Bool                 -- the mutex is a `timed_mutex` (has `try_lock_for/until`)
  pc : Fid → Pc
  occupied : Bool              -- `Mutex::_occupied`
  mq : List Fid                -- `Mutex::_queue`, in list order (PushBack at the end)
  cq : List Fid                -- `ConditionVariable::_queue`
  now : Nat                    -- last virtual time seen
  -- ghost
  holders : List Fid           -- fibers whose last acquisition succeeded and that have not released since
  transit : List Fid           -- fibers made runnable by a NotifyOne on the mutex queue that have not run yet

/-- `n` fibers (0 … n-1) exist; the others never run -/
def init (timed : Bool) (n : Nat) : State :=
  { timed := timed, pc := fun g => if g < n then .idle else .done, occupied := false, mq := [], cq := [], now := 0,
    holders := [], transit := [] }

inductive Label where
  | lockStart (f : Fid)                          -- `f E call lock`
  | lockAcq (f : Fid)                            -- `f M m lock 1`
  | lockPark (f : Fid)                           -- `f M m park 0`
  | tryLock (f : Fid) (ok : Bool)                -- `f M m try_lock b`
  | unlock (f : Fid) (w : Option Fid)            -- `f M m unlock 1` + `f M m notify_one r idx`
  | tlfAcq (f : Fid)                             -- `f E ret try_lock_for 1`
  | tlfPark (f : Fid) (t d j : Nat)              -- `f M m park_timed 0 @t j=j` after `call try_lock_for d`
  | tlfTimeout (f : Fid) (t : Nat)               -- `f M m wake 1 @t`
  | tlfRepark (f : Fid) (j : Nat)                -- `f M m park_timed 0 j=j` after a wake-up
  | cvWait (f : Fid) (w : Option Fid)            -- unlock + notify_one + `f M cq park 0`
  | cvWaitFor (f : Fid) (w : Option Fid) (t d j : Nat)
  | cvWaitUntil (f : Fid) (w : Option Fid) (t req j : Nat)   -- `cv.wait_until(lk, tp)`: `req` = `tp`, possibly in the past
  | cvTimeout (f : Fid) (t : Nat)                -- `f M cq wake 1 @t`
  | notifyOne (f : Fid) (w : Option Fid)         -- `f M cq notify_one r idx`
  | notifyAll (f : Fid)                          -- `f M cq notify_all r`
  | sleepStart (f : Fid) (t d : Nat)             -- `f E call sleep d @t`
  | sleepWake (f : Fid) (t : Nat)                -- `f E ret sleep @t`
  | finish (f : Fid)                             -- `f E done`
  deriving DecidableEq, Repr

/-! effects -/

/-- `FiberQueue::NotifyOne` on the mutex queue -/
def notifyM (s : State) : Option Fid → State
  | none => s
  | some g => { s with mq := rm s.mq g, pc := upd s.pc g (wake (s.pc g)), transit := s.transit ++ [g] }

/-- `_occupied = true` by fiber `f` returning to its caller -/
def acquire (s : State) (f : Fid) : State :=
  { s with occupied := true, holders := s.holders ++ [f], pc := upd s.pc f .idle, transit := rm s.transit f }

def doLockPark (s : State) (f : Fid) (k : Kont) : State :=
  { s with mq := s.mq ++ [f], pc := upd s.pc f (.lockParked k), transit := rm s.transit f }

/-- `Mutex::unlock`: `_occupied = false; _queue.NotifyOne()` -/
def release (s : State) (f : Fid) (w : Option Fid) : State :=
  notifyM { s with occupied := false, holders := s.holders.erase f } w

def doTlfPark (s : State) (f : Fid) (t d j : Nat) : State :=
  { s with mq := s.mq ++ [f], pc := upd s.pc f (.tlfParked (t + d) (t + d + j)), now := t }

def doTlfRepark (s : State) (f : Fid) (req j : Nat) : State :=
  { s with mq := s.mq ++ [f], pc := upd s.pc f (.tlfParked req (req + j)), transit := rm s.transit f }

def doTlfTimeout (s : State) (f : Fid) (t : Nat) : State :=
  { s with mq := rm s.mq f, pc := upd s.pc f .idle, now := t }

def doCvWait (s : State) (f : Fid) (w : Option Fid) : State :=
  let s1 := release s f w
  { s1 with cq := s1.cq ++ [f], pc := upd s1.pc f .cvParked }

def doCvWaitFor (s : State) (f : Fid) (w : Option Fid) (t d j : Nat) : State :=
  let s1 := release s f w
  { s1 with cq := s1.cq ++ [f], pc := upd s1.pc f (.cvTimed (t + d) (t + d + j)), now := t }

def doCvWaitUntil (s : State) (f : Fid) (w : Option Fid) (t req j : Nat) : State :=
  let s1 := release s f w
  { s1 with cq := s1.cq ++ [f], pc := upd s1.pc f (.cvTimed req (req + j)), now := t }

def doCvTimeout (s : State) (f : Fid) (t : Nat) : State :=
  { s with cq := rm s.cq f, pc := upd s.pc f (.locking (.cv true)), now := t }

def doNotifyOne (s : State) : Option Fid → State
  | none => s
  | some g => { s with cq := rm s.cq g, pc := upd s.pc g (.locking (.cv false)) }

def doNotifyAll (s : State) : State :=
  { s with cq := [], pc := fun g => if g ∈ s.cq then .locking (.cv false) else s.pc g }

inductive Step : State → Label → State → Prop where
  /-- `Mutex::lock()` entered -/
  | lockStart (s : State) (f : Fid) (h : s.pc f = .idle) :
      Step s (.lockStart f) { s with pc := upd s.pc f (.locking .plain) }
  /-- `while (_occupied)` is false: `_occupied = true`, return (to the caller or into the end of `cv.wait`) -/
  | lockAcq (s : State) (f : Fid) (k : Kont) (h : s.pc f = .locking k) (ho : s.occupied = false) :
      Step s (.lockAcq f) (acquire s f)
  /-- `while (_occupied) _queue.Wait()` -/
  | lockPark (s : State) (f : Fid) (k : Kont) (h : s.pc f = .locking k) (ho : s.occupied = true) :
      Step s (.lockPark f) (doLockPark s f k)
  | tryOk (s : State) (f : Fid) (h : s.pc f = .idle) (ho : s.occupied = false) :
      Step s (.tryLock f true) (acquire s f)
  | tryFail (s : State) (f : Fid) (h : s.pc f = .idle) (ho : s.occupied = true) :
      Step s (.tryLock f false) s
  | unlock (s : State) (f : Fid) (w : Option Fid) (h : s.pc f = .idle) (hh : f ∈ s.holders) (hw : PickOk s.mq w) :
      Step s (.unlock f w) (release s f w)
  /-- `TimedMutex::TimedWaitHelper`, `_occupied` false on entry -/
  | tlfFast (s : State) (f : Fid) (hk : s.timed = true) (h : s.pc f = .idle) (ho : s.occupied = false) :
      Step s (.tlfAcq f) (acquire s f)
  /-- … true on entry: `_queue.Wait(deadline)` = push on the queue + `SleepPreemptive(deadline + jitter)` -/
  | tlfPark (s : State) (f : Fid) (t d j : Nat) (hk : s.timed = true) (h : s.pc f = .idle) (ho : s.occupied = true)
      (ht : s.now ≤ t) : Step s (.tlfPark f t d j) (doTlfPark s f t d j)
  /-- … woken by a notify: the loop condition is evaluated again -/
  | tlfRecheckAcq (s : State) (f : Fid) (req : Nat) (hk : s.timed = true) (h : s.pc f = .tlfLocking req)
      (ho : s.occupied = false) : Step s (.tlfAcq f) (acquire s f)
  | tlfRepark (s : State) (f : Fid) (req j : Nat) (hk : s.timed = true) (h : s.pc f = .tlfLocking req)
      (ho : s.occupied = true) : Step s (.tlfRepark f j) (doTlfRepark s f req j)
  /-- … woken by the sleep list: still on the queue, `Erase()` succeeds, returns false -/
  | tlfTimeout (s : State) (f : Fid) (t req dl : Nat) (hk : s.timed = true) (h : s.pc f = .tlfParked req dl)
      (hd : dl ≤ t) (ht : s.now ≤ t) : Step s (.tlfTimeout f t) (doTlfTimeout s f t)
  /-- `ConditionVariable::WaitImpl`: `lock.unlock(); _queue.Wait(…)` in one segment -/
  | cvWait (s : State) (f : Fid) (w : Option Fid) (h : s.pc f = .idle) (hh : f ∈ s.holders) (hw : PickOk s.mq w) :
      Step s (.cvWait f w) (doCvWait s f w)
  | cvWaitFor (s : State) (f : Fid) (w : Option Fid) (t d j : Nat) (h : s.pc f = .idle) (hh : f ∈ s.holders)
      (hw : PickOk s.mq w) (ht : s.now ≤ t) : Step s (.cvWaitFor f w t d j) (doCvWaitFor s f w t d j)
  /-- the same with an absolute deadline (`wait_until`; the predicate overload waits again for the same time point) -/
  | cvWaitUntil (s : State) (f : Fid) (w : Option Fid) (t req j : Nat) (h : s.pc f = .idle) (hh : f ∈ s.holders)
      (hw : PickOk s.mq w) (ht : s.now ≤ t) : Step s (.cvWaitUntil f w t req j) (doCvWaitUntil s f w t req j)
  | cvTimeout (s : State) (f : Fid) (t req dl : Nat) (h : s.pc f = .cvTimed req dl) (hd : dl ≤ t) (ht : s.now ≤ t) :
      Step s (.cvTimeout f t) (doCvTimeout s f t)
  | notifyOne (s : State) (f : Fid) (w : Option Fid) (h : s.pc f = .idle) (hw : PickOk s.cq w) :
      Step s (.notifyOne f w) (doNotifyOne s w)
  | notifyAll (s : State) (f : Fid) (h : s.pc f = .idle) : Step s (.notifyAll f) (doNotifyAll s)
  | sleepStart (s : State) (f : Fid) (t d : Nat) (h : s.pc f = .idle) (ht : s.now ≤ t) :
      Step s (.sleepStart f t d) { s with pc := upd s.pc f (.sleeping (t + d)), now := t }
  | sleepWake (s : State) (f : Fid) (t dl : Nat) (h : s.pc f = .sleeping dl) (hd : dl ≤ t) (ht : s.now ≤ t) :
      Step s (.sleepWake f t) { s with pc := upd s.pc f .idle, now := t }
  | finish (s : State) (f : Fid) (h : s.pc f = .idle) : Step s (.finish f) { s with pc := upd s.pc f .done }

inductive Reachable (timed : Bool) (n : Nat) : State → Prop where
  | init : Reachable timed n (init timed n)
  | step {s l s'} : Reachable timed n s → Step s l s' → Reachable timed n s'

/-- nothing can move, now or at any later virtual time (an idle fiber can always start an operation, a sleeper or
    timed waiter can always time out, so in such a state every fiber is `done` or blocked for good) -/
def Quiescent (s : State) : Prop := ∀ l s', ¬ Step s l s'

/-- executable transition function used by the trace validator -/
def next (s : State) : Label → Option State
  | .lockStart f => if s.pc f = .idle then some { s with pc := upd s.pc f (.locking .plain) } else none
  | .lockAcq f =>
      match s.pc f with
      | .locking _ => if s.occupied = false then some (acquire s f) else none
      | _ => none
  | .lockPark f =>
      match s.pc f with
      | .locking k => if s.occupied = true then some (doLockPark s f k) else none
      | _ => none
  | .tryLock f ok =>
      if s.pc f = .idle then
        if ok then (if s.occupied = false then some (acquire s f) else none)
        else (if s.occupied = true then some s else none)
      else none
  | .unlock f w => if s.pc f = .idle ∧ f ∈ s.holders ∧ PickOk s.mq w then some (release s f w) else none
  | .tlfAcq f =>
      if s.timed = true then
        match s.pc f with
        | .idle => if s.occupied = false then some (acquire s f) else none
        | .tlfLocking _ => if s.occupied = false then some (acquire s f) else none
        | _ => none
      else none
  | .tlfRepark f j =>
      if s.timed = true then
        match s.pc f with
        | .tlfLocking req => if s.occupied = true then some (doTlfRepark s f req j) else none
        | _ => none
      else none
  | .tlfPark f t d j =>
      if s.timed = true ∧ s.pc f = .idle ∧ s.occupied = true ∧ s.now ≤ t then some (doTlfPark s f t d j) else none
  | .tlfTimeout f t =>
      if s.timed = true then
        match s.pc f with
        | .tlfParked _ dl => if dl ≤ t ∧ s.now ≤ t then some (doTlfTimeout s f t) else none
        | _ => none
      else none
  | .cvWait f w => if s.pc f = .idle ∧ f ∈ s.holders ∧ PickOk s.mq w then some (doCvWait s f w) else none
  | .cvWaitFor f w t d j =>
      if s.pc f = .idle ∧ f ∈ s.holders ∧ PickOk s.mq w ∧ s.now ≤ t then some (doCvWaitFor s f w t d j) else none
  | .cvWaitUntil f w t req j =>
      if s.pc f = .idle ∧ f ∈ s.holders ∧ PickOk s.mq w ∧ s.now ≤ t then some (doCvWaitUntil s f w t req j) else none
  | .cvTimeout f t =>
      match s.pc f with
      | .cvTimed _ dl => if dl ≤ t ∧ s.now ≤ t then some (doCvTimeout s f t) else none
      | _ => none
  | .notifyOne f w => if s.pc f = .idle ∧ PickOk s.cq w then some (doNotifyOne s w) else none
  | .notifyAll f => if s.pc f = .idle then some (doNotifyAll s) else none
  | .sleepStart f t d =>
      if s.pc f = .idle ∧ s.now ≤ t then some { s with pc := upd s.pc f (.sleeping (t + d)), now := t } else none
  | .sleepWake f t =>
      match s.pc f with
      | .sleeping dl => if dl ≤ t ∧ s.now ≤ t then some { s with pc := upd s.pc f .idle, now := t } else none
      | _ => none
  | .finish f => if s.pc f = .idle then some { s with pc := upd s.pc f .done } else none

theorem next_sound {s : State} {l : Label} {s' : State} (h : next s l = some s') : Step s l s' := by
  cases l with
  | tlfAcq f =>
      simp only [next] at h; (repeat' split at h) <;> cases h
      · exact .tlfFast s f ‹_› ‹_› ‹_›
      · exact .tlfRecheckAcq s f _ ‹_› ‹_› ‹_›
  | _ =>
      simp only [next] at h; (repeat' split at h) <;> cases h <;> (repeat cases ‹_ ∧ _›) <;>
        (try simp only [Bool.not_eq_true] at *) <;> subst_vars <;> constructor <;> first | assumption | simp_all

end Yaclib.FiberSync.Mx
