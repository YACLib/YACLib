/-
C14 — coroutine Mutex (`yaclib::Mutex<Batching, FIFO>`).

Written from /repo: `detail::MutexImpl<FIFO, Batching>::{TryLockAwait, AwaitLock, TryUnlockAwait, BatchingPossible,
UnlockHereAwait, AwaitUnlock, AwaitUnlockOn, TryLock, UnlockHere, GetHead}`, `UnlockAwaiter`, `UnlockOnAwaiter`
(include/yaclib/coro/mutex.hpp), `LockAwaiter`, `GuardAwaiter` (coro/detail/mutex_awaiter.hpp), `Guard`/`UniqueGuard`
(coro/guard.hpp), `LockStickyAwaiter`, `UnlockStickyAwaiter`, `StickyGuard`, `GuardStickyAwaiter` (coro/guard_sticky.hpp).

State of the implementation: the atomic word `_sender` ∈ {kNotLocked, kLockedNoWaiters, head of a LIFO stack of
parked coroutines} and the plain list `_receiver` (waiters already taken over by the holder, served first).

Granularity: one step per atomic operation on `_sender` (`load`, every `compare_exchange_*` attempt, `exchange`) and per
client-visible event (critical section entered / left, a failed try-lock reported, a coroutine handed to an
executor).  Thread-local code between two such points is folded into the following step; the list reversal of
`GetHead` (FIFO) is folded into the `exchange` step.  A parked coroutine has no step of its own: it becomes
runnable again only through the `grant` step *of the releaser* (which submits it to its executor, or — batching —
resumes it in place).  Executors accept work (hypothesis of the property): a granted coroutine is simply runnable.

Any number of coroutines (identified by natural numbers), each running its own list of rounds
`(acquire form, release form)`.

Stale loads: every plain `load` of the word is only a pre-check before an RMW (or the initial value of a CAS
loop), so the model lets it return anything coherence could allow and more: the try-lock pre-check and the initial
load of `AwaitLock` are unconstrained, the unlock pre-check may always report "no waiters".  (The FIBER backend never
produces a stale value: model behaviours ⊇ implementation behaviours.)

`co_await UnlockOn(e)` (and the sticky unlock) *first* re-submits the unlocking coroutine and only then releases, so
the rest of the release runs concurrently with the coroutine's own continuation.  The progress of the (unique)
release operation is therefore kept in the ownership token `own`, not in the coroutine's program counter; such a
detached release is executed by the agent `tail c`, every other step of a coroutine by the agent `co c`.
-/
namespace Yaclib.CoMutex

abbrev Cid := Nat

/-- how a round acquires: `Lock()`/`Guard()` (LockAwaiter), `GuardSticky()`/`StickyGuard::Lock()` (LockStickyAwaiter),
    `TryLock()`/`TryGuard()` -/
inductive Acq where
  | lock | sticky | try_
  deriving DecidableEq, Repr

/-- how a round releases: `co_await Unlock()` (UnlockAwaiter), `co_await UnlockOn(e)` (UnlockOnAwaiter),
    `UnlockHere()` / guard destruction, `co_await StickyGuard::Unlock()` (UnlockStickyAwaiter) -/
inductive Rel where
  | unlock | unlockOn | here | stickyUnlock
  deriving DecidableEq, Repr

/-- the release code actually executed -/
inductive RelK where
  | unlock | unlockOn | here
  deriving DecidableEq, Repr

structure Round where
  acq : Acq
  rel : Rel
  deriving DecidableEq, Repr

structure Cfg where
  batching : Bool
  fifo : Bool
  prog : Cid → List Round

inductive Word where
  | notLocked
  | locked (l : List Cid)          -- `[]` = kLockedNoWaiters, otherwise the stack of parked coroutines (head = newest)
  deriving DecidableEq, Repr

/-- what a coroutine can know about the word: the value of the machine word (a head pointer) -/
inductive Exp where
  | free
  | locked (h : Option Cid)
  deriving DecidableEq, Repr

def Word.cls : Word → Exp
  | .notLocked => .free
  | .locked l => .locked l.head?

inductive Pc where
  | idle                  -- between rounds (finished when nothing is left to do)
  | tlLoaded              -- TryLockAwait: pre-check load saw kNotLocked, strong CAS next
  | tryFailed             -- TryLock()/TryGuard() is about to report failure
  | alStart               -- await_ready was false: AwaitLock, initial load next
  | alLoop (e : Exp)      -- AwaitLock loop with `expected = e`: weak CAS next
  | parked                -- suspended, linked into `_sender` or `_receiver`
  | acq                   -- owns the mutex, runnable (CAS succeeded / submitted by the releaser / resumed in place)
  | cs                    -- inside the critical section
  | unlocking             -- inside a release operation that it executes itself
  deriving DecidableEq, Repr

/-- progress of the release operation -/
inductive RelPc where
  | pre                   -- AwaitUnlockOn: `executor.Submit(curr)` next
  | start                 -- TryUnlockAwait / GetHead entry: serve `_receiver` if non-empty, else pre-check load
  | cas                   -- pre-check saw kLockedNoWaiters: strong CAS → kNotLocked next
  | xchg                  -- new waiters exist: `exchange(kLockedNoWaiters)` in GetHead next
  | took                  -- the exchanged stack was moved to `_receiver`: hand over to its head
  deriving DecidableEq, Repr

/-- the ownership token (ghost for `held`; the control state of the releaser for `rel`) -/
inductive Own where
  | free
  | held (c : Cid)
  | rel (c : Cid) (p : RelPc) (k : RelK) (det : Bool)   -- `det`: the releasing coroutine was already re-submitted
  deriving DecidableEq, Repr

def Own.holder : Own → Option Cid
  | .held c => some c
  | _ => none

/-- the coroutine that is executing the release itself (and therefore cannot do anything else) -/
def Own.blocked : Own → Option Cid
  | .rel c _ _ false => some c
  | _ => none

def Own.relPc : Own → Option RelPc
  | .rel _ p _ _ => some p
  | _ => none

def Own.det : Own → Bool
  | .rel _ _ _ d => d
  | _ => false

/-- who executes a step -/
inductive Agent where
  | co (c : Cid)          -- the coroutine itself
  | tail (c : Cid)        -- the thread finishing `AwaitUnlockOn` of `c` after `c` was re-submitted
  deriving DecidableEq, Repr

def agentOf (c : Cid) (det : Bool) : Agent := if det then .tail c else .co c

structure State where
  cfg : Cfg
  word : Word
  receiver : List Cid
  pc : Cid → Pc
  todo : Cid → List Round
  sticky : Cid → Bool              -- StickyGuard::_executor ≠ nullptr (the lock was obtained by parking)
  own : Own
  -- ghost history
  arrivals : List Cid              -- order of successful pushes
  granted : List Cid               -- order of hand-overs to parked coroutines
  enters : Cid → Nat               -- critical sections entered
  fails : Cid → Nat                -- failed try-locks reported

def init (cfg : Cfg) : State :=
  { cfg := cfg, word := .notLocked, receiver := [], pc := fun _ => .idle, todo := cfg.prog, sticky := fun _ => false,
    own := .free, arrivals := [], granted := [], enters := fun _ => 0, fails := fun _ => 0 }

inductive Label where
  | tlLoad (c : Cid) (sawFree : Bool)       -- TryLockAwait: load(relaxed)
  | tlCas (c : Cid) (ok : Bool)             -- TryLockAwait: compare_exchange_strong(kNotLocked → kLockedNoWaiters)
  | tryFail (c : Cid)                       -- TryLock()/TryGuard() returned false / a guard that owns nothing
  | alLoad (c : Cid) (e : Exp)              -- AwaitLock: initial load(relaxed)
  | alCas (c : Cid) (ok : Bool)             -- AwaitLock: one compare_exchange_weak attempt (either branch)
  | enter (c : Cid)                         -- critical section entered
  | exit (c : Cid)                          -- critical section left: a release form is called
  | resubmit (c : Cid)                      -- AwaitUnlockOn: `executor.Submit(curr)` before releasing
  | ulLoad (a : Agent) (sawEmpty : Bool)    -- TryUnlockAwait: load(relaxed)
  | ulCas (a : Agent) (ok : Bool)           -- TryUnlockAwait: compare_exchange_strong(kLockedNoWaiters → kNotLocked)
  | ulXchg (a : Agent)                      -- GetHead: exchange(kLockedNoWaiters)
  | grant (a : Agent) (n : Cid) (inl : Bool) -- the lock is handed to parked `n` (`inl`: resumed in place, batching)
  deriving DecidableEq, Repr

/-- the agent executing a step -/
def Label.agent : Label → Agent
  | .tlLoad c _ => .co c | .tlCas c _ => .co c | .tryFail c => .co c | .alLoad c _ => .co c | .alCas c _ => .co c
  | .enter c => .co c | .exit c => .co c | .resubmit c => .co c
  | .ulLoad a _ => a | .ulCas a _ => a | .ulXchg a => a | .grant a _ _ => a

def upd {α : Type} (f : Cid → α) (c : Cid) (v : α) : Cid → α := fun x => if x = c then v else f x

def Word.list : Word → List Cid
  | .notLocked => []
  | .locked l => l

/-- the stack of parked coroutines in `_sender` -/
def senderList (s : State) : List Cid := s.word.list

def curAcq (s : State) (c : Cid) : Acq :=
  match s.todo c with
  | r :: _ => r.acq
  | [] => .lock

def curRel (s : State) (c : Cid) : Rel :=
  match s.todo c with
  | r :: _ => r.rel
  | [] => .here

def relKind (r : Rel) (sticky : Bool) : RelK :=
  match r with
  | .unlock => .unlock
  | .unlockOn => .unlockOn
  | .here => .here
  | .stickyUnlock => if sticky then .unlockOn else .here

/-! effects of the steps (shared by `Step` and `next`) -/

/-- TryLockAwait returned false -/
def failAcq (s : State) (c : Cid) : State :=
  { s with pc := upd s.pc c (if curAcq s c = .try_ then .tryFailed else .alStart) }

def doTlLoad (s : State) (c : Cid) (sawFree : Bool) : State :=
  if sawFree then { s with pc := upd s.pc c .tlLoaded } else failAcq s c

/-- a CAS kNotLocked → kLockedNoWaiters succeeded -/
def doAcquire (s : State) (c : Cid) : State :=
  { s with word := .locked [], own := .held c, pc := upd s.pc c .acq, sticky := upd s.sticky c false }

def doTryFail (s : State) (c : Cid) : State :=
  { s with pc := upd s.pc c .idle, todo := upd s.todo c (s.todo c).tail, fails := upd s.fails c (s.fails c + 1) }

/-- the push CAS of AwaitLock succeeded: parked -/
def doPush (s : State) (c : Cid) (l : List Cid) : State :=
  { s with word := .locked (c :: l), pc := upd s.pc c .parked,
           sticky := upd s.sticky c (decide (curAcq s c = .sticky)), arrivals := s.arrivals ++ [c] }

def doEnter (s : State) (c : Cid) : State :=
  { s with pc := upd s.pc c .cs, enters := upd s.enters c (s.enters c + 1) }

def exitKind (s : State) (c : Cid) : RelK := relKind (curRel s c) (s.sticky c)

def doExit (s : State) (c : Cid) : State :=
  { s with pc := upd s.pc c .unlocking,
           own := .rel c (if exitKind s c = .unlockOn then .pre else .start) (exitKind s c) false }

def doResubmit (s : State) (c : Cid) (k : RelK) : State :=
  { s with own := .rel c .start k true, pc := upd s.pc c .idle, todo := upd s.todo c (s.todo c).tail }

/-- the release operation of `c` is over; unless it was detached `c` goes on with its next round -/
def finish (s : State) (c : Cid) (det : Bool) : State :=
  if det then s else { s with pc := upd s.pc c .idle, todo := upd s.todo c (s.todo c).tail }

def doRelease (s : State) (c : Cid) (det : Bool) : State :=
  { finish s c det with word := .notLocked, own := .free }

def doXchg (s : State) (c : Cid) (k : RelK) (det : Bool) (l : List Cid) : State :=
  { s with word := .locked [], receiver := if s.cfg.fifo then l.reverse else l, own := .rel c .took k det }

def doGrant (s : State) (c : Cid) (det : Bool) (n : Cid) (rest : List Cid) : State :=
  { finish s c det with receiver := rest, granted := s.granted ++ [n], own := .held n,
                        pc := upd (finish s c det).pc n .acq }

/-- the next holder is resumed in place (symmetric transfer) instead of being submitted:
    `Batching`, a suspending release form, and the next holder comes from the *old* `_receiver` -/
def inlineOf (s : State) (p : RelPc) (k : RelK) : Bool :=
  s.cfg.batching && decide (k ≠ .here) && decide (p = .start)

inductive Step : State → Label → State → Prop where
  /-- TryLockAwait (await_ready of every lock form, TryLock): pre-check load, possibly stale -/
  | tlLoad (s : State) (c : Cid) (sawFree : Bool) (h : s.pc c = .idle) (ht : s.todo c ≠ []) :
      Step s (.tlLoad c sawFree) (doTlLoad s c sawFree)
  | tlCasOk (s : State) (c : Cid) (h : s.pc c = .tlLoaded) (hw : s.word = .notLocked) :
      Step s (.tlCas c true) (doAcquire s c)
  | tlCasFail (s : State) (c : Cid) (h : s.pc c = .tlLoaded) (hw : s.word ≠ .notLocked) :
      Step s (.tlCas c false) (failAcq s c)
  | tryFail (s : State) (c : Cid) (h : s.pc c = .tryFailed) : Step s (.tryFail c) (doTryFail s c)
  /-- AwaitLock: the initial load (possibly stale: any value) -/
  | alLoad (s : State) (c : Cid) (e : Exp) (h : s.pc c = .alStart) :
      Step s (.alLoad c e) { s with pc := upd s.pc c (.alLoop e) }
  /-- AwaitLock, branch `expected == kNotLocked`: weak CAS → kLockedNoWaiters -/
  | alCasLock (s : State) (c : Cid) (h : s.pc c = .alLoop .free) (hw : s.word = .notLocked) :
      Step s (.alCas c true) (doAcquire s c)
  /-- AwaitLock, other branch: `curr.next = expected`, weak CAS expected → &curr (compares the head pointer only) -/
  | alCasPush (s : State) (c : Cid) (hd : Option Cid) (l : List Cid) (h : s.pc c = .alLoop (.locked hd))
      (hw : s.word = .locked l) (hh : l.head? = hd) : Step s (.alCas c true) (doPush s c l)
  /-- a failed weak CAS (spuriously, or because the word differs) reloads `expected` -/
  | alCasFail (s : State) (c : Cid) (e : Exp) (h : s.pc c = .alLoop e) :
      Step s (.alCas c false) { s with pc := upd s.pc c (.alLoop s.word.cls) }
  | enter (s : State) (c : Cid) (h : s.pc c = .acq) : Step s (.enter c) (doEnter s c)
  | exit (s : State) (c : Cid) (h : s.pc c = .cs) : Step s (.exit c) (doExit s c)
  /-- AwaitUnlockOn: the unlocking coroutine is handed to its executor *before* the mutex is released -/
  | resubmit (s : State) (c : Cid) (k : RelK) (h : s.own = .rel c .pre k false) :
      Step s (.resubmit c) (doResubmit s c k)
  /-- TryUnlockAwait with empty `_receiver`: pre-check load (may report a stale kLockedNoWaiters) -/
  | ulLoad (s : State) (c : Cid) (k : RelK) (d : Bool) (sawEmpty : Bool) (h : s.own = .rel c .start k d)
      (hr : s.receiver = []) (hs : sawEmpty = false → senderList s ≠ []) :
      Step s (.ulLoad (agentOf c d) sawEmpty) { s with own := .rel c (if sawEmpty then .cas else .xchg) k d }
  | ulCasOk (s : State) (c : Cid) (k : RelK) (d : Bool) (h : s.own = .rel c .cas k d) (hw : s.word = .locked []) :
      Step s (.ulCas (agentOf c d) true) (doRelease s c d)
  | ulCasFail (s : State) (c : Cid) (k : RelK) (d : Bool) (h : s.own = .rel c .cas k d) (hw : s.word ≠ .locked []) :
      Step s (.ulCas (agentOf c d) false) { s with own := .rel c .xchg k d }
  /-- GetHead with empty `_receiver`: take over the whole stack (reversed when FIFO) -/
  | ulXchg (s : State) (c : Cid) (k : RelK) (d : Bool) (l : List Cid) (h : s.own = .rel c .xchg k d)
      (hw : s.word = .locked l) (hl : l ≠ []) : Step s (.ulXchg (agentOf c d)) (doXchg s c k d l)
  /-- hand the mutex to the head of `_receiver` (`_receiver = next.next`; Submit(next) or transfer to it) -/
  | grant (s : State) (c : Cid) (p : RelPc) (k : RelK) (d : Bool) (n : Cid) (rest : List Cid)
      (h : s.own = .rel c p k d) (hp : p = .start ∨ p = .took) (hr : s.receiver = n :: rest) :
      Step s (.grant (agentOf c d) n (inlineOf s p k)) (doGrant s c d n rest)

inductive Reachable (cfg : Cfg) : State → Prop where
  | init : Reachable cfg (init cfg)
  | step {s l s'} : Reachable cfg s → Step s l s' → Reachable cfg s'

/-- executable transition function used by the trace validator (`ymdriver`) -/
def next (s : State) : Label → Option State
  | .tlLoad c sawFree => if s.pc c = .idle ∧ s.todo c ≠ [] then some (doTlLoad s c sawFree) else none
  | .tlCas c ok =>
      if s.pc c = .tlLoaded then
        if ok then (if s.word = .notLocked then some (doAcquire s c) else none)
        else (if s.word ≠ .notLocked then some (failAcq s c) else none)
      else none
  | .tryFail c => if s.pc c = .tryFailed then some (doTryFail s c) else none
  | .alLoad c e => if s.pc c = .alStart then some { s with pc := upd s.pc c (.alLoop e) } else none
  | .alCas c ok =>
      match s.pc c with
      | .alLoop e =>
          if ok then
            match e, s.word with
            | .free, .notLocked => some (doAcquire s c)
            | .locked hd, .locked l => if l.head? = hd then some (doPush s c l) else none
            | _, _ => none
          else some { s with pc := upd s.pc c (.alLoop s.word.cls) }
      | _ => none
  | .enter c => if s.pc c = .acq then some (doEnter s c) else none
  | .exit c => if s.pc c = .cs then some (doExit s c) else none
  | .resubmit c =>
      match s.own with
      | .rel c' .pre k false => if c' = c then some (doResubmit s c k) else none
      | _ => none
  | .ulLoad a sawEmpty =>
      match s.own with
      | .rel c .start k d =>
          if a = agentOf c d ∧ s.receiver = [] ∧ (sawEmpty = false → senderList s ≠ []) then
            some { s with own := .rel c (if sawEmpty then .cas else .xchg) k d }
          else none
      | _ => none
  | .ulCas a ok =>
      match s.own with
      | .rel c .cas k d =>
          if a = agentOf c d then
            if ok then (if s.word = .locked [] then some (doRelease s c d) else none)
            else (if s.word ≠ .locked [] then some { s with own := .rel c .xchg k d } else none)
          else none
      | _ => none
  | .ulXchg a =>
      match s.own, s.word with
      | .rel c .xchg k d, .locked l => if a = agentOf c d ∧ l ≠ [] then some (doXchg s c k d l) else none
      | _, _ => none
  | .grant a n inl =>
      match s.own, s.receiver with
      | .rel c p k d, m :: rest =>
          if a = agentOf c d ∧ (p = .start ∨ p = .took) ∧ m = n ∧ inl = inlineOf s p k then some (doGrant s c d n rest)
          else none
      | _, _ => none

theorem next_sound {s : State} {l : Label} {s' : State} (h : next s l = some s') : Step s l s' := by
  cases l <;> simp only [next] at h <;> (repeat' split at h) <;> cases h <;> (repeat cases ‹_ ∧ _›) <;>
    (try simp only [Bool.not_eq_true] at *) <;> subst_vars <;> constructor <;> first | assumption | simp_all

end Yaclib.CoMutex
