/-
C15 — coroutine SharedMutex (`yaclib::SharedMutex<FIFO, ReadersFIFO>`).

Written from /repo: `detail::SharedMutexImpl<FIFO, ReadersFIFO>::{TryLockSharedAwait, TryLockAwait, AwaitLockShared,
AwaitLock, TryLockShared, TryLock, UnlockHereShared, UnlockHere, Run, RunWriter, PassReaders, RunReaders, SlowUnlock}`
(include/yaclib/coro/shared_mutex.hpp), `LockAwaiter<M, Shared>`/`GuardAwaiter` (coro/detail/mutex_awaiter.hpp),
`Guard<M, Shared>` (coro/guard.hpp), `Spinlock::{lock, unlock}` (util/detail/spinlock.hpp).

State of the implementation
* `_state`: 64-bit word, writers (holding + waiting) in the high 32 bits, readers (holding + registered) in the low 32:
  modelled as the pair `(W, R)` of naturals.  `fetch_add(kWriter)`/`fetch_sub(kWriter)` act on `W`, `fetch_add(kReader)`/
  `fetch_sub(kReader)` on `R`; that no carry/borrow crosses the halves is *proved* (Props/C15: `no_borrow`, `no_carry`).
* `_readers_wait`: 32-bit unsigned "debt"; modelled as an `Int` (`rwait`), the tests `== 1` and `!= -r` are made on the
  integer; `Props/C15.u32_compare_exact` + `rwait_bounds` show that the unsigned wrap-around comparison agrees.
* the record protected by the spinlock `_lock`: `_readers` (`Q`, in service order: `PopFront` takes the head), `_readers_size`
  (`qsize`), `_readers_pass` (`pass`), `_writers_first` (`wfirst`), the writers' queue `_writers_head…_writers_tail` (`WQ`),
  `_writers_prio` (`prio`, maintained only when FIFO).

Granularity: one step per atomic operation (`_state`: load, fetch_add, fetch_sub, every CAS attempt; `_readers_wait`:
fetch_add, fetch_sub, store; the spinlock word: every `exchange`, every spin `load`, the unlocking `store`) and per
client-visible event (section entered / left, failed try reported, a coroutine handed to its executor by `Run`).
The plain updates inside a spinlock-protected block are folded into the following atomic step of the block (they are
invisible to everybody else until the unlocking store).

Only `UnlockHere`/`UnlockHereShared`/guard destruction release a SharedMutex (`Guard<M,Shared>::Unlock/UnlockOn` name
members `UnlockShared`, `Unlock`, `UnlockOn…` that SharedMutex does not have: they do not compile for it).

A parked coroutine has no step; it becomes runnable only in a `run…` step of a releaser (executors accept work).
The first writer of a batch posts its debt (`_readers_wait.fetch_add(r)`) while it still holds the spinlock; from that
moment the last paying reader may resume it — before it has executed `_lock.unlock()`.  That last store is therefore
executed by the detached agent `tail c` (`spin = tailOf c`), as in the C14 model.

Stale loads: the pre-check of `TryLockAwait`, the initial load of `TryLockShared` and the spin load are pre-checks
before an RMW; the model lets them return anything.
-/
namespace Yaclib.CoSharedMutex

abbrev Cid := Nat

inductive Op where
  | rd       -- co_await LockShared()/GuardShared() … UnlockHereShared()/~SharedGuard
  | wr       -- co_await Lock()/Guard() … UnlockHere()/~UniqueGuard
  | tryRd    -- TryLockShared()/TryGuardShared()
  | tryWr    -- TryLock()/TryGuard()
  deriving DecidableEq, Repr

structure Cfg where
  fifo : Bool
  rfifo : Bool
  prog : Cid → List Op

/-- who wants / got the spinlock -/
inductive SpinK where
  | rd       -- AwaitLockShared
  | wr       -- AwaitLock
  | un       -- SlowUnlock
  deriving DecidableEq, Repr

/-- what AwaitLock does when it releases the spinlock -/
inductive WUnl where
  | acq      -- it returned false: the writer owns the mutex and continues
  | enq      -- linked at `_writers_tail` (and `_writers_prio` adjusted): parked
  deriving DecidableEq, Repr

/-- the path SlowUnlock takes (decided by the value `s` of `fetch_sub(kWriter)` and the protected record) -/
inductive Branch where
  | runWriter                -- RunWriter()
  | stored (sw : Nat)        -- RunReaders(s), other writers wait (`w ≠ 1`): `_readers_wait.store` done / to do
  | readersPass (sr : Nat)   -- RunReaders(s), no other writer: PassReaders(s)
  | passOnly (sr : Nat)      -- PassReaders(s); unlock
  deriving DecidableEq, Repr

inductive Pc where
  | idle
  -- readers
  | rLocked                        -- AwaitLockShared holds the spinlock (decision + unlocking store next)
  | rparked                        -- linked in `_readers`
  | rgranted                       -- taken out of `_readers` by RunReaders, `Run` (Submit) not yet called
  | racq                           -- owns a shared lock, runnable
  | rcs                            -- inside the shared section
  | rUn1                           -- UnlockHereShared: `_state.fetch_sub(kReader)` next
  | rUn2                           -- a writer waits: `_readers_wait.fetch_sub(1)` next
  | rRun                           -- it was the last payer: `Run(_writers_first)` next
  | trLoop (w r : Nat)             -- TryLockShared loop with `s = (w, r)`
  | tryFailed                      -- a Try* form is about to report failure
  -- writers
  | twLoaded                       -- TryLockAwait: pre-check saw 0, strong CAS next
  | wLocked                        -- AwaitLock holds the spinlock: `_state.fetch_add(kWriter)` next
  | wPost (r : Nat)                -- first writer, `r` readers counted: `_readers_wait.fetch_add(r)` next
  | wUnl (k : WUnl)                -- AwaitLock: unlocking store next
  | wparkedQ                       -- parked in the writers' queue
  | wparkedF                       -- parked as `_writers_first`, waiting for the counted readers
  | wgranted                       -- taken out of the writers' queue by RunWriter, `Run` (Submit) not yet called
  | wacq                           -- owns the exclusive lock, runnable
  | wcs                            -- inside the exclusive section
  | wUn0                           -- UnlockHere: strong CAS kWriter → 0 next
  | uLocked                        -- SlowUnlock holds the spinlock: `_state.fetch_sub(kWriter)` next
  | uStore (sw : Nat)              -- RunReaders, `w ≠ 1`: `_readers_wait.store(_readers_size)` next
  | uUnl (b : Branch)              -- SlowUnlock: unlocking store next
  | uRunW (n : Cid)                -- RunWriter: `Run(node)` next
  | uRunR                          -- RunReaders: `Run(&readers.PopFront())` loop
  -- all three users of the spinlock
  | spinning (k : SpinK) (inner : Bool)   -- `exchange(1)` next / inside the inner `load` loop
  deriving DecidableEq, Repr

/-! classification of program counters (used by the invariants; every case explicit so that the equation lemmas are unconditional) -/

def Pc.isAR : Pc → Bool
  | .idle => false
  | .rLocked => false
  | .rparked => false
  | .rgranted => false
  | .racq => true
  | .rcs => true
  | .rUn1 => true
  | .rUn2 => false
  | .rRun => false
  | .trLoop _ _ => false
  | .tryFailed => false
  | .twLoaded => false
  | .wLocked => false
  | .wPost _ => false
  | .wUnl .acq => false
  | .wUnl .enq => false
  | .wparkedQ => false
  | .wparkedF => false
  | .wgranted => false
  | .wacq => false
  | .wcs => false
  | .wUn0 => false
  | .uLocked => false
  | .uStore _ => false
  | .uUnl .runWriter => false
  | .uUnl (.stored _) => false
  | .uUnl (.readersPass _) => false
  | .uUnl (.passOnly _) => false
  | .uRunW _ => false
  | .uRunR => false
  | .spinning .rd _ => false
  | .spinning .wr _ => false
  | .spinning .un _ => false

def Pc.isIFL : Pc → Bool
  | .idle => false
  | .rLocked => true
  | .rparked => false
  | .rgranted => false
  | .racq => false
  | .rcs => false
  | .rUn1 => false
  | .rUn2 => false
  | .rRun => false
  | .trLoop _ _ => false
  | .tryFailed => false
  | .twLoaded => false
  | .wLocked => false
  | .wPost _ => false
  | .wUnl .acq => false
  | .wUnl .enq => false
  | .wparkedQ => false
  | .wparkedF => false
  | .wgranted => false
  | .wacq => false
  | .wcs => false
  | .wUn0 => false
  | .uLocked => false
  | .uStore _ => false
  | .uUnl .runWriter => false
  | .uUnl (.stored _) => false
  | .uUnl (.readersPass _) => false
  | .uUnl (.passOnly _) => false
  | .uRunW _ => false
  | .uRunR => false
  | .spinning .rd _ => true
  | .spinning .wr _ => false
  | .spinning .un _ => false

def Pc.isExcl : Pc → Bool
  | .idle => false
  | .rLocked => false
  | .rparked => false
  | .rgranted => false
  | .racq => false
  | .rcs => false
  | .rUn1 => false
  | .rUn2 => false
  | .rRun => false
  | .trLoop _ _ => false
  | .tryFailed => false
  | .twLoaded => false
  | .wLocked => false
  | .wPost _ => false
  | .wUnl .acq => true
  | .wUnl .enq => false
  | .wparkedQ => false
  | .wparkedF => false
  | .wgranted => true
  | .wacq => true
  | .wcs => true
  | .wUn0 => true
  | .uLocked => true
  | .uStore _ => true
  | .uUnl .runWriter => true
  | .uUnl (.stored _) => true
  | .uUnl (.readersPass _) => false
  | .uUnl (.passOnly _) => false
  | .uRunW _ => false
  | .uRunR => false
  | .spinning .rd _ => false
  | .spinning .wr _ => false
  | .spinning .un _ => true

def Pc.isCntW : Pc → Bool
  | .idle => false
  | .rLocked => false
  | .rparked => false
  | .rgranted => false
  | .racq => false
  | .rcs => false
  | .rUn1 => false
  | .rUn2 => false
  | .rRun => false
  | .trLoop _ _ => false
  | .tryFailed => false
  | .twLoaded => false
  | .wLocked => false
  | .wPost _ => false
  | .wUnl .acq => true
  | .wUnl .enq => false
  | .wparkedQ => false
  | .wparkedF => false
  | .wgranted => true
  | .wacq => true
  | .wcs => true
  | .wUn0 => true
  | .uLocked => true
  | .uStore _ => false
  | .uUnl .runWriter => false
  | .uUnl (.stored _) => false
  | .uUnl (.readersPass _) => false
  | .uUnl (.passOnly _) => false
  | .uRunW _ => false
  | .uRunR => false
  | .spinning .rd _ => false
  | .spinning .wr _ => false
  | .spinning .un _ => true

def Pc.isHeld : Pc → Bool
  | .idle => false
  | .rLocked => true
  | .rparked => false
  | .rgranted => false
  | .racq => false
  | .rcs => false
  | .rUn1 => false
  | .rUn2 => false
  | .rRun => false
  | .trLoop _ _ => false
  | .tryFailed => false
  | .twLoaded => false
  | .wLocked => true
  | .wPost _ => true
  | .wUnl .acq => true
  | .wUnl .enq => true
  | .wparkedQ => false
  | .wparkedF => false
  | .wgranted => false
  | .wacq => false
  | .wcs => false
  | .wUn0 => false
  | .uLocked => true
  | .uStore _ => true
  | .uUnl .runWriter => true
  | .uUnl (.stored _) => true
  | .uUnl (.readersPass _) => true
  | .uUnl (.passOnly _) => true
  | .uRunW _ => false
  | .uRunR => false
  | .spinning .rd _ => false
  | .spinning .wr _ => false
  | .spinning .un _ => false

def Pc.isParked : Pc → Bool
  | .idle => false
  | .rLocked => false
  | .rparked => true
  | .rgranted => true
  | .racq => false
  | .rcs => false
  | .rUn1 => false
  | .rUn2 => false
  | .rRun => false
  | .trLoop _ _ => false
  | .tryFailed => false
  | .twLoaded => false
  | .wLocked => false
  | .wPost _ => false
  | .wUnl .acq => false
  | .wUnl .enq => false
  | .wparkedQ => true
  | .wparkedF => true
  | .wgranted => true
  | .wacq => false
  | .wcs => false
  | .wUn0 => false
  | .uLocked => false
  | .uStore _ => false
  | .uUnl .runWriter => false
  | .uUnl (.stored _) => false
  | .uUnl (.readersPass _) => false
  | .uUnl (.passOnly _) => false
  | .uRunW _ => false
  | .uRunR => false
  | .spinning .rd _ => false
  | .spinning .wr _ => false
  | .spinning .un _ => false

def Pc.isInRound : Pc → Bool
  | .idle => false
  | .rLocked => false
  | .rparked => false
  | .rgranted => false
  | .racq => false
  | .rcs => true
  | .rUn1 => true
  | .rUn2 => true
  | .rRun => true
  | .trLoop _ _ => false
  | .tryFailed => false
  | .twLoaded => false
  | .wLocked => false
  | .wPost _ => false
  | .wUnl .acq => false
  | .wUnl .enq => false
  | .wparkedQ => false
  | .wparkedF => false
  | .wgranted => false
  | .wacq => false
  | .wcs => true
  | .wUn0 => true
  | .uLocked => true
  | .uStore _ => true
  | .uUnl .runWriter => true
  | .uUnl (.stored _) => true
  | .uUnl (.readersPass _) => true
  | .uUnl (.passOnly _) => true
  | .uRunW _ => true
  | .uRunR => true
  | .spinning .rd _ => false
  | .spinning .wr _ => false
  | .spinning .un _ => true

def Pc.isStoredUnl : Pc → Bool
  | .idle => false
  | .rLocked => false
  | .rparked => false
  | .rgranted => false
  | .racq => false
  | .rcs => false
  | .rUn1 => false
  | .rUn2 => false
  | .rRun => false
  | .trLoop _ _ => false
  | .tryFailed => false
  | .twLoaded => false
  | .wLocked => false
  | .wPost _ => false
  | .wUnl .acq => false
  | .wUnl .enq => false
  | .wparkedQ => false
  | .wparkedF => false
  | .wgranted => false
  | .wacq => false
  | .wcs => false
  | .wUn0 => false
  | .uLocked => false
  | .uStore _ => false
  | .uUnl .runWriter => false
  | .uUnl (.stored _) => true
  | .uUnl (.readersPass _) => false
  | .uUnl (.passOnly _) => false
  | .uRunW _ => false
  | .uRunR => false
  | .spinning .rd _ => false
  | .spinning .wr _ => false
  | .spinning .un _ => false

def Pc.isPassUnl : Pc → Bool
  | .idle => false
  | .rLocked => false
  | .rparked => false
  | .rgranted => false
  | .racq => false
  | .rcs => false
  | .rUn1 => false
  | .rUn2 => false
  | .rRun => false
  | .trLoop _ _ => false
  | .tryFailed => false
  | .twLoaded => false
  | .wLocked => false
  | .wPost _ => false
  | .wUnl .acq => false
  | .wUnl .enq => false
  | .wparkedQ => false
  | .wparkedF => false
  | .wgranted => false
  | .wacq => false
  | .wcs => false
  | .wUn0 => false
  | .uLocked => false
  | .uStore _ => false
  | .uUnl .runWriter => false
  | .uUnl (.stored _) => false
  | .uUnl (.readersPass _) => true
  | .uUnl (.passOnly _) => true
  | .uRunW _ => false
  | .uRunR => false
  | .spinning .rd _ => false
  | .spinning .wr _ => false
  | .spinning .un _ => false

def Pc.isULock : Pc → Bool
  | .idle => false
  | .rLocked => false
  | .rparked => false
  | .rgranted => false
  | .racq => false
  | .rcs => false
  | .rUn1 => false
  | .rUn2 => false
  | .rRun => false
  | .trLoop _ _ => false
  | .tryFailed => false
  | .twLoaded => false
  | .wLocked => false
  | .wPost _ => false
  | .wUnl .acq => false
  | .wUnl .enq => false
  | .wparkedQ => false
  | .wparkedF => false
  | .wgranted => false
  | .wacq => false
  | .wcs => false
  | .wUn0 => false
  | .uLocked => true
  | .uStore _ => true
  | .uUnl .runWriter => true
  | .uUnl (.stored _) => true
  | .uUnl (.readersPass _) => true
  | .uUnl (.passOnly _) => true
  | .uRunW _ => false
  | .uRunR => false
  | .spinning .rd _ => false
  | .spinning .wr _ => false
  | .spinning .un _ => false

def Pc.isURunW : Pc → Bool
  | .idle => false
  | .rLocked => false
  | .rparked => false
  | .rgranted => false
  | .racq => false
  | .rcs => false
  | .rUn1 => false
  | .rUn2 => false
  | .rRun => false
  | .trLoop _ _ => false
  | .tryFailed => false
  | .twLoaded => false
  | .wLocked => false
  | .wPost _ => false
  | .wUnl .acq => false
  | .wUnl .enq => false
  | .wparkedQ => false
  | .wparkedF => false
  | .wgranted => false
  | .wacq => false
  | .wcs => false
  | .wUn0 => false
  | .uLocked => false
  | .uStore _ => false
  | .uUnl .runWriter => false
  | .uUnl (.stored _) => false
  | .uUnl (.readersPass _) => false
  | .uUnl (.passOnly _) => false
  | .uRunW _ => true
  | .uRunR => false
  | .spinning .rd _ => false
  | .spinning .wr _ => false
  | .spinning .un _ => false

def Pc.isNeedW : Pc → Bool
  | .idle => false
  | .rLocked => false
  | .rparked => false
  | .rgranted => false
  | .racq => false
  | .rcs => false
  | .rUn1 => false
  | .rUn2 => false
  | .rRun => false
  | .trLoop _ _ => false
  | .tryFailed => false
  | .twLoaded => false
  | .wLocked => false
  | .wPost _ => false
  | .wUnl .acq => false
  | .wUnl .enq => false
  | .wparkedQ => false
  | .wparkedF => false
  | .wgranted => false
  | .wacq => false
  | .wcs => false
  | .wUn0 => false
  | .uLocked => false
  | .uStore _ => true
  | .uUnl .runWriter => true
  | .uUnl (.stored _) => true
  | .uUnl (.readersPass _) => false
  | .uUnl (.passOnly _) => false
  | .uRunW _ => false
  | .uRunR => false
  | .spinning .rd _ => false
  | .spinning .wr _ => false
  | .spinning .un _ => false

inductive Spin where
  | free
  | held (c : Cid)
  | tailOf (c : Cid)       -- only the unlocking store of `c`'s AwaitLock is left; `c` itself is already resumable
  deriving DecidableEq, Repr

/-- the pending first writer (ghost) -/
inductive PW where
  | none
  | a (n : Cid) (r : Nat)   -- counted in the word, debt `r` not yet posted
  | b (n : Cid)             -- debt posted, payers remain
  | c (n : Cid) (by_ : Cid) -- the last payer `by_` is about to run it
  deriving DecidableEq, Repr

def PW.isSome : PW → Bool
  | .none => false
  | _ => true

def PW.who : PW → Option Cid
  | .none => Option.none
  | .a n _ => some n
  | .b n => some n
  | .c n _ => some n

/-- the reader that is about to run the pending writer -/
def PW.by_ : PW → Option Cid
  | .c _ r => some r
  | _ => Option.none

/-- payers are still expected -/
def PW.isAB : PW → Bool
  | .a _ _ => true
  | .b _ => true
  | _ => false

inductive Agent where
  | co (c : Cid)
  | tail (c : Cid)
  deriving DecidableEq, Repr

structure State where
  cfg : Cfg
  W : Nat
  R : Nat
  rwait : Int
  spin : Spin
  Q : List Cid
  qsize : Nat
  pass : Nat
  wfirst : Option Cid
  WQ : List Cid
  prio : Nat
  pc : Cid → Pc
  todo : Cid → List Op
  -- ghost
  ar : List Cid            -- readers that own a shared lock and are runnable / inside / about to release
  ifl : List Cid           -- readers registered while a writer was counted, not yet through the locked section ("in flight")
  lv : List Cid            -- readers between the two atomics of UnlockHereShared
  torun : List Cid         -- `readers` local of RunReaders: they own a shared lock but are not yet submitted
  excl : Option Cid        -- the writer that owns exclusivity (until it gives it up or hands it over)
  pw : PW
  runner : Option Cid      -- the writer inside the Run loop of RunReaders
  wrun : Option Cid        -- the writer about to `Run` its successor (RunWriter)
  ew : Nat                 -- 1 iff the exclusivity owner is still counted in `W`
  enq : Nat                -- 1 iff a writer is counted in `W` but not yet linked into the queue
  pend : Nat               -- pass credits a departing writer is about to add (PassReaders)
  pendBy : Option Cid      -- that writer
  enters : Cid → Nat
  fails : Cid → Nat
  parks : Cid → Nat
  grants : Cid → Nat

def init (cfg : Cfg) : State :=
  { cfg := cfg, W := 0, R := 0, rwait := 0, spin := .free, Q := [], qsize := 0, pass := 0, wfirst := none, WQ := [], prio := 0,
    pc := fun _ => .idle, todo := cfg.prog, ar := [], ifl := [], lv := [], torun := [], excl := none, pw := .none,
    runner := none, wrun := none, ew := 0, enq := 0, pend := 0, pendBy := none, enters := fun _ => 0, fails := fun _ => 0, parks := fun _ => 0, grants := fun _ => 0 }

inductive Label where
  | rdFadd (c : Cid)                        -- TryLockSharedAwait: `_state.fetch_add(kReader)`
  | spinXchg (c : Cid) (ok : Bool)          -- Spinlock::lock: `exchange(1)` returned 0 / 1
  | spinLoad (c : Cid) (sawFree : Bool)     -- Spinlock::lock: inner `load`
  | rdUnlock (c : Cid)                      -- AwaitLockShared: take a pass credit or enqueue; unlocking store
  | enter (c : Cid)
  | exit (c : Cid)
  | rdFsub (c : Cid)                        -- UnlockHereShared: `_state.fetch_sub(kReader)`
  | rwFsub (c : Cid)                        -- UnlockHereShared: `_readers_wait.fetch_sub(1)`
  | runFirst (c : Cid) (n : Cid)            -- UnlockHereShared: `Run(_writers_first)`
  | trLoad (c : Cid) (w r : Nat)            -- TryLockShared: initial load
  | trCas (c : Cid) (ok : Bool)             -- TryLockShared: one weak CAS attempt
  | tryFail (c : Cid)                       -- a Try* form reports failure
  | twLoad (c : Cid) (sawZero : Bool)       -- TryLockAwait: load
  | twCas (c : Cid) (ok : Bool)             -- TryLockAwait: strong CAS 0 → kWriter
  | wrFadd (c : Cid)                        -- AwaitLock: `_state.fetch_add(kWriter)`
  | wrPost (c : Cid)                        -- AwaitLock: `_readers_wait.fetch_add(r)`
  | wUnlock (c : Cid)                       -- AwaitLock: unlocking store (by the coroutine itself)
  | tailUnlock (a : Agent)                  -- AwaitLock: unlocking store after the writer became resumable
  | wuCas (c : Cid) (ok : Bool)             -- UnlockHere: strong CAS kWriter → 0
  | wuFsub (c : Cid)                        -- SlowUnlock: `_state.fetch_sub(kWriter)`
  | rwStore (c : Cid)                       -- RunReaders: `_readers_wait.store(_readers_size)`
  | uUnlock (c : Cid)                       -- SlowUnlock: plain updates of the chosen path; unlocking store
  | runW (c : Cid) (n : Cid)                -- RunWriter: `Run(node)`
  | runR (c : Cid) (n : Cid)                -- RunReaders: `Run(&readers.PopFront())`
  deriving DecidableEq, Repr

def Label.agent : Label → Agent
  | .rdFadd c => .co c | .spinXchg c _ => .co c | .spinLoad c _ => .co c | .rdUnlock c => .co c | .enter c => .co c
  | .exit c => .co c | .rdFsub c => .co c | .rwFsub c => .co c | .runFirst c _ => .co c | .trLoad c _ _ => .co c
  | .trCas c _ => .co c | .tryFail c => .co c | .twLoad c _ => .co c | .twCas c _ => .co c | .wrFadd c => .co c
  | .wrPost c => .co c | .wUnlock c => .co c | .tailUnlock a => a | .wuCas c _ => .co c | .wuFsub c => .co c
  | .rwStore c => .co c | .uUnlock c => .co c | .runW c _ => .co c | .runR c _ => .co c

def upd {α : Type} (f : Cid → α) (c : Cid) (v : α) : Cid → α := fun x => if x = c then v else f x

def curOp (s : State) (c : Cid) : Op :=
  match s.todo c with
  | o :: _ => o
  | [] => .rd

/-! effects -/

/-- the current round of `c` is over -/
def done (s : State) (c : Cid) : State :=
  { s with pc := upd s.pc c .idle, todo := upd s.todo c (s.todo c).tail }

def doRdFadd (s : State) (c : Cid) : State :=
  if s.W = 0 then { s with R := s.R + 1, ar := c :: s.ar, pc := upd s.pc c .racq }
  else { s with R := s.R + 1, ifl := c :: s.ifl, pc := upd s.pc c (.spinning .rd false) }

def lockedPc : SpinK → Pc
  | .rd => .rLocked
  | .wr => .wLocked
  | .un => .uLocked

def doSpinOk (s : State) (c : Cid) (k : SpinK) : State :=
  { s with spin := .held c, pc := upd s.pc c (lockedPc k) }

/-- AwaitLockShared under the spinlock + unlock -/
def doRdUnlock (s : State) (c : Cid) : State :=
  if s.pass ≠ 0 then
    { s with spin := .free, pass := s.pass - 1, ifl := s.ifl.erase c, ar := c :: s.ar, pc := upd s.pc c .racq }
  else
    { s with spin := .free, Q := if s.cfg.rfifo then s.Q ++ [c] else c :: s.Q, qsize := s.qsize + 1,
             ifl := s.ifl.erase c, pc := upd s.pc c .rparked, parks := upd s.parks c (s.parks c + 1) }

def doEnter (s : State) (c : Cid) (p : Pc) : State :=
  { s with pc := upd s.pc c p, enters := upd s.enters c (s.enters c + 1) }

def doRdFsub (s : State) (c : Cid) : State :=
  if s.W = 0 then { done s c with R := s.R - 1, ar := s.ar.erase c }
  else { s with R := s.R - 1, ar := s.ar.erase c, lv := c :: s.lv, pc := upd s.pc c .rUn2 }

def doRwFsub (s : State) (c : Cid) : State :=
  if s.rwait = 1 then
    { s with rwait := s.rwait - 1, lv := s.lv.erase c, pc := upd s.pc c .rRun,
             pw := match s.pw with | .b n => .c n c | x => x }
  else { done s c with rwait := s.rwait - 1, lv := s.lv.erase c }

/-- `Run(node)` of a parked writer -/
def doRunWriter (s : State) (c : Cid) (n : Cid) : State :=
  { done s c with pc := upd (done s c).pc n .wacq, excl := some n, ew := 1, pw := .none, wrun := none,
                  grants := upd s.grants n (s.grants n + 1) }

/-- `Run(_writers_first)` by the last paying reader -/
def doRunFirst (s : State) (c : Cid) (n : Cid) : State :=
  { done s c with pc := upd (done s c).pc n .wacq, excl := some n, ew := 1, pw := .none,
                  grants := upd s.grants n (s.grants n + 1) }

def doTryFail (s : State) (c : Cid) : State :=
  { done s c with fails := upd s.fails c (s.fails c + 1) }

def doTrCasOk (s : State) (c : Cid) : State :=
  { s with R := s.R + 1, ar := c :: s.ar, pc := upd s.pc c .racq }

/-- TryLockAwait returned false -/
def failW (s : State) (c : Cid) : State :=
  { s with pc := upd s.pc c (if curOp s c = .tryWr then .tryFailed else .spinning .wr false) }

def doTwLoad (s : State) (c : Cid) (sawZero : Bool) : State :=
  if sawZero then { s with pc := upd s.pc c .twLoaded } else failW s c

def doTwCasOk (s : State) (c : Cid) : State :=
  { s with W := 1, excl := some c, ew := 1, pc := upd s.pc c .wacq }

def doWrFadd (s : State) (c : Cid) : State :=
  if s.W = 0 then
    if s.R = 0 then { s with W := s.W + 1, wfirst := some c, excl := some c, ew := 1, pc := upd s.pc c (.wUnl .acq) }
    else { s with W := s.W + 1, wfirst := some c, pw := .a c s.R, pc := upd s.pc c (.wPost s.R) }
  else { s with W := s.W + 1, enq := 1, pc := upd s.pc c (.wUnl .enq) }

def doWrPost (s : State) (c : Cid) (r : Nat) : State :=
  if s.rwait = -(r : Int) then
    { s with rwait := s.rwait + r, pw := .none, excl := some c, ew := 1, pc := upd s.pc c (.wUnl .acq) }
  else
    { s with rwait := s.rwait + r, pw := .b c, pc := upd s.pc c .wparkedF, spin := .tailOf c,
             parks := upd s.parks c (s.parks c + 1) }

def doWUnlock (s : State) (c : Cid) (k : WUnl) : State :=
  match k with
  | .acq => { s with spin := .free, pc := upd s.pc c .wacq }
  | .enq =>
      { s with spin := .free, WQ := s.WQ ++ [c], enq := 0,
               prio := if s.cfg.fifo ∧ s.Q = [] then s.prio + 1 else s.prio,
               pc := upd s.pc c .wparkedQ, parks := upd s.parks c (s.parks c + 1) }

def doWuCasOk (s : State) (c : Cid) : State :=
  { done s c with W := 0, excl := none, ew := 0 }

/-- the path of SlowUnlock -/
def branchOf (s : State) : Branch :=
  if s.cfg.fifo ∧ s.prio ≠ 0 then .runWriter
  else if s.Q ≠ [] then (if s.W ≠ 1 then .stored s.W else .readersPass s.R)
  else if ¬ s.cfg.fifo ∧ s.W ≠ 1 then .runWriter
  else .passOnly s.R

def givesUp : Branch → Bool
  | .readersPass _ => true
  | .passOnly _ => true
  | _ => false

def doWuFsub (s : State) (c : Cid) : State :=
  let b := branchOf s
  { s with W := s.W - 1, ew := 0, excl := if givesUp b then none else s.excl,
           pendBy := if givesUp b then some c else s.pendBy, pend := if givesUp b then s.R - s.qsize else s.pend,
           pc := upd s.pc c (match b with | .stored sw => .uStore sw | b => .uUnl b) }

def doRwStore (s : State) (c : Cid) (sw : Nat) : State :=
  { s with rwait := (s.qsize : Int), pc := upd s.pc c (.uUnl (.stored sw)) }

/-- `auto readers = std::move(_readers); _readers_size = 0;`: all queued readers now own a shared lock -/
def releaseReaders (s : State) (c : Cid) : State :=
  { s with torun := s.Q, Q := [], qsize := 0, runner := some c,
           pc := fun x => if x ∈ s.Q then .rgranted else upd s.pc c .uRunR x }

def doUUnlock (s : State) (c : Cid) (b : Branch) (n : Cid) (rest : List Cid) : State :=
  match b with
  | .runWriter =>
      { s with spin := .free, prio := if s.cfg.fifo then s.prio - 1 else s.prio, WQ := rest, excl := some n, ew := 1,
               wrun := some c, pc := upd (upd s.pc n .wgranted) c (.uRunW n) }
  | .stored sw =>
      let s1 : State := { s with spin := .free, WQ := rest, wfirst := some n, prio := if s.cfg.fifo then sw - 2 else s.prio,
                                 pw := .b n, excl := none, pc := upd s.pc n .wparkedF }
      releaseReaders s1 c
  | .readersPass sr =>
      releaseReaders { s with spin := .free, pass := s.pass + (sr - s.qsize), pend := 0, pendBy := none } c
  | .passOnly sr => { done s c with spin := .free, pass := s.pass + (sr - s.qsize), pend := 0, pendBy := none }

def needsWriter : Branch → Bool
  | .runWriter => true
  | .stored _ => true
  | _ => false

def doRunR (s : State) (c : Cid) (n : Cid) (rest : List Cid) : State :=
  let s1 : State := { s with torun := rest, ar := n :: s.ar, pc := upd s.pc n .racq,
                             grants := upd s.grants n (s.grants n + 1) }
  if rest = [] then { done s1 c with runner := none } else s1

inductive Step : State → Label → State → Prop where
  /-- LockShared: `fetch_add(kReader)`; no writer counted ⇒ owns a shared lock, else AwaitLockShared -/
  | rdFadd (s : State) (c : Cid) (h : s.pc c = .idle) (ht : s.todo c ≠ []) (ho : curOp s c = .rd) :
      Step s (.rdFadd c) (doRdFadd s c)
  | spinOk (s : State) (c : Cid) (k : SpinK) (h : s.pc c = .spinning k false) (hf : s.spin = .free) :
      Step s (.spinXchg c true) (doSpinOk s c k)
  | spinBusy (s : State) (c : Cid) (k : SpinK) (h : s.pc c = .spinning k false) (hf : s.spin ≠ .free) :
      Step s (.spinXchg c false) { s with pc := upd s.pc c (.spinning k true) }
  /-- the inner spin load (a pre-check: may be stale) -/
  | spinLoad (s : State) (c : Cid) (k : SpinK) (sawFree : Bool) (h : s.pc c = .spinning k true) :
      Step s (.spinLoad c sawFree) { s with pc := upd s.pc c (.spinning k (!sawFree)) }
  | rdUnlock (s : State) (c : Cid) (h : s.pc c = .rLocked) (hs : s.spin = .held c) :
      Step s (.rdUnlock c) (doRdUnlock s c)
  | enterR (s : State) (c : Cid) (h : s.pc c = .racq) : Step s (.enter c) (doEnter s c .rcs)
  | enterW (s : State) (c : Cid) (h : s.pc c = .wacq) : Step s (.enter c) (doEnter s c .wcs)
  | exitR (s : State) (c : Cid) (h : s.pc c = .rcs) : Step s (.exit c) { s with pc := upd s.pc c .rUn1 }
  | exitW (s : State) (c : Cid) (h : s.pc c = .wcs) : Step s (.exit c) { s with pc := upd s.pc c .wUn0 }
  | rdFsub (s : State) (c : Cid) (h : s.pc c = .rUn1) : Step s (.rdFsub c) (doRdFsub s c)
  | rwFsub (s : State) (c : Cid) (h : s.pc c = .rUn2) : Step s (.rwFsub c) (doRwFsub s c)
  | runFirst (s : State) (c : Cid) (n : Cid) (h : s.pc c = .rRun) (hf : s.wfirst = some n) :
      Step s (.runFirst c n) (doRunFirst s c n)
  /-- TryLockShared -/
  | trBegin (s : State) (c : Cid) (w r : Nat) (h : s.pc c = .idle) (ht : s.todo c ≠ []) (ho : curOp s c = .tryRd) :
      Step s (.trLoad c w r) { s with pc := upd s.pc c (.trLoop w r) }
  | trFail (s : State) (c : Cid) (w r : Nat) (h : s.pc c = .trLoop w r) (hw : w ≠ 0) :
      Step s (.tryFail c) (doTryFail s c)
  | trCasOk (s : State) (c : Cid) (r : Nat) (h : s.pc c = .trLoop 0 r) (hW : s.W = 0) (hR : s.R = r) :
      Step s (.trCas c true) (doTrCasOk s c)
  | trCasFail (s : State) (c : Cid) (r : Nat) (h : s.pc c = .trLoop 0 r) :
      Step s (.trCas c false) { s with pc := upd s.pc c (.trLoop s.W s.R) }
  /-- TryLockAwait (await_ready of Lock/Guard; TryLock/TryGuard) -/
  | twLoad (s : State) (c : Cid) (sawZero : Bool) (h : s.pc c = .idle) (ht : s.todo c ≠ [])
      (ho : curOp s c = .wr ∨ curOp s c = .tryWr) : Step s (.twLoad c sawZero) (doTwLoad s c sawZero)
  | twCasOk (s : State) (c : Cid) (h : s.pc c = .twLoaded) (hW : s.W = 0) (hR : s.R = 0) :
      Step s (.twCas c true) (doTwCasOk s c)
  | twCasFail (s : State) (c : Cid) (h : s.pc c = .twLoaded) (hne : ¬ (s.W = 0 ∧ s.R = 0)) :
      Step s (.twCas c false) (failW s c)
  | tryFailW (s : State) (c : Cid) (h : s.pc c = .tryFailed) : Step s (.tryFail c) (doTryFail s c)
  /-- AwaitLock under the spinlock -/
  | wrFadd (s : State) (c : Cid) (h : s.pc c = .wLocked) (hs : s.spin = .held c) : Step s (.wrFadd c) (doWrFadd s c)
  | wrPost (s : State) (c : Cid) (r : Nat) (h : s.pc c = .wPost r) (hs : s.spin = .held c) :
      Step s (.wrPost c) (doWrPost s c r)
  | wUnlock (s : State) (c : Cid) (k : WUnl) (h : s.pc c = .wUnl k) (hs : s.spin = .held c) :
      Step s (.wUnlock c) (doWUnlock s c k)
  | tailUnlock (s : State) (c : Cid) (hs : s.spin = .tailOf c) : Step s (.tailUnlock (.tail c)) { s with spin := .free }
  /-- UnlockHere -/
  | wuCasOk (s : State) (c : Cid) (h : s.pc c = .wUn0) (hW : s.W = 1) (hR : s.R = 0) :
      Step s (.wuCas c true) (doWuCasOk s c)
  | wuCasFail (s : State) (c : Cid) (h : s.pc c = .wUn0) (hne : ¬ (s.W = 1 ∧ s.R = 0)) :
      Step s (.wuCas c false) { s with pc := upd s.pc c (.spinning .un false) }
  | wuFsub (s : State) (c : Cid) (h : s.pc c = .uLocked) (hs : s.spin = .held c) : Step s (.wuFsub c) (doWuFsub s c)
  | rwStore (s : State) (c : Cid) (sw : Nat) (h : s.pc c = .uStore sw) (hs : s.spin = .held c) :
      Step s (.rwStore c) (doRwStore s c sw)
  /-- the unlocking store of SlowUnlock; paths that pop the writers' queue need it non-empty (else the code
      dereferences null) -/
  | uUnlockW (s : State) (c : Cid) (b : Branch) (n : Cid) (rest : List Cid) (h : s.pc c = .uUnl b) (hs : s.spin = .held c)
      (hb : needsWriter b = true) (hq : s.WQ = n :: rest) : Step s (.uUnlock c) (doUUnlock s c b n rest)
  | uUnlockP (s : State) (c : Cid) (b : Branch) (h : s.pc c = .uUnl b) (hs : s.spin = .held c)
      (hb : needsWriter b = false) : Step s (.uUnlock c) (doUUnlock s c b 0 [])
  | runW (s : State) (c : Cid) (n : Cid) (h : s.pc c = .uRunW n) : Step s (.runW c n) (doRunWriter s c n)
  | runR (s : State) (c : Cid) (n : Cid) (rest : List Cid) (h : s.pc c = .uRunR) (ht : s.torun = n :: rest) :
      Step s (.runR c n) (doRunR s c n rest)

inductive Reachable (cfg : Cfg) : State → Prop where
  | init : Reachable cfg (init cfg)
  | step {s l s'} : Reachable cfg s → Step s l s' → Reachable cfg s'

/-- executable transition function used by the trace validator (`ymdriver`) -/
def next (s : State) : Label → Option State
  | .rdFadd c => if s.pc c = .idle ∧ s.todo c ≠ [] ∧ curOp s c = .rd then some (doRdFadd s c) else none
  | .spinXchg c ok =>
      match s.pc c with
      | .spinning k false =>
          if ok then (if s.spin = .free then some (doSpinOk s c k) else none)
          else (if s.spin ≠ .free then some { s with pc := upd s.pc c (.spinning k true) } else none)
      | _ => none
  | .spinLoad c sawFree =>
      match s.pc c with
      | .spinning k true => some { s with pc := upd s.pc c (.spinning k (!sawFree)) }
      | _ => none
  | .rdUnlock c => if s.pc c = .rLocked ∧ s.spin = .held c then some (doRdUnlock s c) else none
  | .enter c =>
      if s.pc c = .racq then some (doEnter s c .rcs)
      else if s.pc c = .wacq then some (doEnter s c .wcs) else none
  | .exit c =>
      if s.pc c = .rcs then some { s with pc := upd s.pc c .rUn1 }
      else if s.pc c = .wcs then some { s with pc := upd s.pc c .wUn0 } else none
  | .rdFsub c => if s.pc c = .rUn1 then some (doRdFsub s c) else none
  | .rwFsub c => if s.pc c = .rUn2 then some (doRwFsub s c) else none
  | .runFirst c n => if s.pc c = .rRun ∧ s.wfirst = some n then some (doRunFirst s c n) else none
  | .trLoad c w r =>
      if s.pc c = .idle ∧ s.todo c ≠ [] ∧ curOp s c = .tryRd then some { s with pc := upd s.pc c (.trLoop w r) } else none
  | .trCas c ok =>
      match s.pc c with
      | .trLoop 0 r =>
          if ok then (if s.W = 0 ∧ s.R = r then some (doTrCasOk s c) else none)
          else some { s with pc := upd s.pc c (.trLoop s.W s.R) }
      | _ => none
  | .tryFail c =>
      match s.pc c with
      | .trLoop w _ => if w ≠ 0 then some (doTryFail s c) else none
      | .tryFailed => some (doTryFail s c)
      | _ => none
  | .twLoad c sawZero =>
      if s.pc c = .idle ∧ s.todo c ≠ [] ∧ (curOp s c = .wr ∨ curOp s c = .tryWr) then some (doTwLoad s c sawZero) else none
  | .twCas c ok =>
      if s.pc c = .twLoaded then
        if ok then (if s.W = 0 ∧ s.R = 0 then some (doTwCasOk s c) else none)
        else (if ¬ (s.W = 0 ∧ s.R = 0) then some (failW s c) else none)
      else none
  | .wrFadd c => if s.pc c = .wLocked ∧ s.spin = .held c then some (doWrFadd s c) else none
  | .wrPost c =>
      match s.pc c with
      | .wPost r => if s.spin = .held c then some (doWrPost s c r) else none
      | _ => none
  | .wUnlock c =>
      match s.pc c with
      | .wUnl k => if s.spin = .held c then some (doWUnlock s c k) else none
      | _ => none
  | .tailUnlock a =>
      match a with
      | .tail c => if s.spin = .tailOf c then some { s with spin := .free } else none
      | .co _ => none
  | .wuCas c ok =>
      if s.pc c = .wUn0 then
        if ok then (if s.W = 1 ∧ s.R = 0 then some (doWuCasOk s c) else none)
        else (if ¬ (s.W = 1 ∧ s.R = 0) then some { s with pc := upd s.pc c (.spinning .un false) } else none)
      else none
  | .wuFsub c => if s.pc c = .uLocked ∧ s.spin = .held c then some (doWuFsub s c) else none
  | .rwStore c =>
      match s.pc c with
      | .uStore sw => if s.spin = .held c then some (doRwStore s c sw) else none
      | _ => none
  | .uUnlock c =>
      match s.pc c with
      | .uUnl b =>
          if s.spin = .held c then
            if needsWriter b = true then
              match s.WQ with
              | n :: rest => some (doUUnlock s c b n rest)
              | [] => none
            else some (doUUnlock s c b 0 [])
          else none
      | _ => none
  | .runW c n => if s.pc c = .uRunW n then some (doRunWriter s c n) else none
  | .runR c n =>
      match s.torun with
      | m :: rest => if s.pc c = .uRunR ∧ m = n then some (doRunR s c n rest) else none
      | [] => none

theorem next_sound {s : State} {l : Label} {s' : State} (h : next s l = some s') : Step s l s' := by
  cases l with
  | tryFail c =>
      simp only [next] at h; (repeat' split at h) <;> cases h
      · exact .trFail s c _ _ ‹_› ‹_›
      · exact .tryFailW s c ‹_›
  | uUnlock c =>
      simp only [next] at h; (repeat' split at h) <;> cases h
      · exact .uUnlockW s c _ _ _ ‹_› ‹_› ‹_› ‹_›
      · exact .uUnlockP s c _ ‹_› ‹_› (by simp_all)
  | _ =>
      simp only [next] at h; (repeat' split at h) <;> cases h <;> (repeat cases ‹_ ∧ _›) <;>
        (try simp only [Bool.not_eq_true] at *) <;> subst_vars <;> constructor <;> first | assumption | simp_all

end Yaclib.CoSharedMutex
