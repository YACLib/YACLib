import YaclibModel.Base.Ops
import YaclibModel.Base.Run
import YaclibModel.Extracted.FiberAtomic
import YaclibModel.Extracted.Kernels
import YaclibModel.Model.Skeletons
import YaclibModel.Model.Atomic
import YaclibModel.Model.Unique
import YaclibModel.Props.C19
import YaclibModel.Props.C01
import YaclibModel.Model.Strand
import YaclibModel.Props.C07
import YaclibModel.Model.CoMutex
import YaclibModel.Props.C14
import YaclibModel.Extracted.PoolConsts
import YaclibModel.Model.Pool
import YaclibModel.Props.C08
import YaclibModel.Extracted.FiberSync
import YaclibModel.Extracted.FiberAlias
import YaclibModel.Model.FiberSync
import YaclibModel.Model.FiberSyncRec
import YaclibModel.Model.FiberSyncShared
import YaclibModel.Model.FiberSyncThread
import YaclibModel.Props.C18
import YaclibModel.Model.Shared
import YaclibModel.Props.C06
import YaclibModel.Base.SchedImp
import YaclibModel.Extracted.FiberSched
import YaclibModel.Model.FiberSched
import YaclibModel.Proofs.FiberSchedSpec
import YaclibModel.Proofs.FiberSchedShift
import YaclibModel.Proofs.FiberSchedOrder
import YaclibModel.Props.C17
import YaclibModel.Model.When
import YaclibModel.Props.C09
import YaclibModel.Props.C10
import YaclibModel.Model.Wait
import YaclibModel.Props.C11
import YaclibModel.Extracted.Dispatch
import YaclibModel.Extracted.DoneOrder
import YaclibModel.Extracted.AllocSites
import YaclibModel.Model.Pipeline
import YaclibModel.Model.FreeJob
import YaclibModel.Model.ResultAlg
import YaclibModel.Props.C02
import YaclibModel.Props.C03
import YaclibModel.Props.C05
import YaclibModel.Props.C12
import YaclibModel.Props.C20
import YaclibModel.Model.CoSharedMutex
import YaclibModel.Props.C15
import YaclibModel.Model.Coro
import YaclibModel.Model.CoroMulti
import YaclibModel.Props.C13
import YaclibModel.Model.Event
import YaclibModel.Props.C16
-- T2b: whole-file ties of the anchor files (vlib/x_anchors.py)
import YaclibModel.Props.Anchors.C01
import YaclibModel.Props.Anchors.C02
import YaclibModel.Props.Anchors.C03
import YaclibModel.Props.Anchors.C04
import YaclibModel.Props.Anchors.C05
import YaclibModel.Props.Anchors.C06
import YaclibModel.Props.Anchors.C07
import YaclibModel.Props.Anchors.C08
import YaclibModel.Props.Anchors.C09
import YaclibModel.Props.Anchors.C10
import YaclibModel.Props.Anchors.C11
import YaclibModel.Props.Anchors.C12
import YaclibModel.Props.Anchors.C13
import YaclibModel.Props.Anchors.C14
import YaclibModel.Props.Anchors.C15
import YaclibModel.Props.Anchors.C16
import YaclibModel.Props.Anchors.C17
import YaclibModel.Props.Anchors.C18
import YaclibModel.Props.Anchors.C19
import YaclibModel.Props.Anchors.C20
import YaclibModel.Model.WhenNodes
import YaclibModel.Proofs.UniqueOwn
import YaclibModel.Proofs.WhenOwn
import YaclibModel.Proofs.StrandOwn
import YaclibModel.Model.WhenCompose
import YaclibModel.Model.WhenComposeShared
import YaclibModel.Model.WhenComposeMixed
